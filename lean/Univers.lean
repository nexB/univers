-- Root of the `Univers` library: models, specs, theorems, driver. GENERATED by tools_wire.py
import Univers.Basic.Digits
import Univers.Basic.PadLex
import Univers.Basic.PadLexEq
import Univers.Basic.Swo
import Univers.Driver
import Univers.Driver.Advisory
import Univers.Driver.Alpm
import Univers.Driver.Conan
import Univers.Driver.Deb
import Univers.Driver.Dispatch
import Univers.Driver.Domain
import Univers.Driver.Gem
import Univers.Driver.GemPypi
import Univers.Driver.Generic
import Univers.Driver.Gentoo
import Univers.Driver.Maven
import Univers.Driver.MavenConan
import Univers.Driver.Npm
import Univers.Driver.Nuget
import Univers.Driver.Openssl
import Univers.Driver.Pypi
import Univers.Driver.Rpm
import Univers.Driver.Semver
import Univers.Driver.TextVers
import Univers.Driver.Util
import Univers.Driver.Vers
import Univers.Props.C01
import Univers.Props.C02
import Univers.Props.C03
import Univers.Props.C04
import Univers.Props.C05
import Univers.Props.C06
import Univers.Props.C07
import Univers.Props.C08
import Univers.Props.C09
import Univers.Props.C10
import Univers.Props.C11
import Univers.Props.C12
import Univers.Props.C13
import Univers.Props.C14
import Univers.Props.C15
import Univers.Props.C16
import Univers.Props.C17
import Univers.Props.C18
import Univers.Props.Schemes
import Univers.Py.Attrs
import Univers.Py.ClassPins
import Univers.Py.Dispatch
import Univers.Scheme.Alpm
import Univers.Scheme.AlpmSpec
import Univers.Scheme.AlpmThm
import Univers.Scheme.Conan
import Univers.Scheme.ConanSpec
import Univers.Scheme.ConanThm
import Univers.Scheme.Deb
import Univers.Scheme.DebSpec
import Univers.Scheme.DebThm
import Univers.Scheme.Gem
import Univers.Scheme.GemSpec
import Univers.Scheme.GemThm
import Univers.Scheme.Generic
import Univers.Scheme.Gentoo
import Univers.Scheme.GentooSpec
import Univers.Scheme.GentooThm
import Univers.Scheme.Maven
import Univers.Scheme.MavenSpec
import Univers.Scheme.MavenThm
import Univers.Scheme.Nuget
import Univers.Scheme.NugetSpec
import Univers.Scheme.NugetThm
import Univers.Scheme.Openssl
import Univers.Scheme.OpensslSpec
import Univers.Scheme.OpensslThm
import Univers.Scheme.Pypi
import Univers.Scheme.PypiSpec
import Univers.Scheme.PypiThm
import Univers.Scheme.RegexPins
import Univers.Scheme.Rpm
import Univers.Scheme.RpmSpec
import Univers.Scheme.RpmThm
import Univers.Scheme.Semver
import Univers.Scheme.SemverSpec
import Univers.Scheme.SemverThm
import Univers.Scheme.TablesThm
import Univers.Text.Advisory
import Univers.Text.AdvisorySpec
import Univers.Text.AdvisoryTables
import Univers.Text.AdvisoryThm
import Univers.Text.ConanRange
import Univers.Text.ConanRangeSpec
import Univers.Text.ConanRangeThm
import Univers.Text.EndToEnd
import Univers.Text.EndToEndGem
import Univers.Text.EndToEndThm
import Univers.Text.Err
import Univers.Text.GemReq
import Univers.Text.GemReqSpec
import Univers.Text.GemReqThm
import Univers.Text.GenAdvisoryExact
import Univers.Text.GenAdvisoryThm
import Univers.Text.GenRangeStrThm
import Univers.Text.GenRangeTextThm
import Univers.Text.GenRelationThm
import Univers.Text.GenSplitReqThm
import Univers.Text.GenTextThm
import Univers.Text.GenVersExact
import Univers.Text.MavenRange
import Univers.Text.MavenRangeSpec
import Univers.Text.MavenRangeThm
import Univers.Text.Npm
import Univers.Text.NpmSpec
import Univers.Text.NpmThm
import Univers.Text.PyAdv
import Univers.Text.PyText
import Univers.Text.PypiNative
import Univers.Text.PypiNativeThm
import Univers.Text.Str
import Univers.Text.Vers
import Univers.Text.VersSpec
import Univers.Text.VersThm
import Univers.Vers.ConLemmas
import Univers.Vers.ContainsMain
import Univers.Vers.ContainsThm
import Univers.Vers.Cuts
import Univers.Vers.DenoteCongr
import Univers.Vers.GenConInvertThm
import Univers.Vers.GenConValidateThm
import Univers.Vers.GenContainsThm
import Univers.Vers.GenLayerBExact
import Univers.Vers.GenRangeContainsThm
import Univers.Vers.GenRangeInvertThm
import Univers.Vers.GenRangeNormalizeThm
import Univers.Vers.GenSimplifyThm
import Univers.Vers.GenValidateThm
import Univers.Vers.History
import Univers.Vers.HistoryModel
import Univers.Vers.InvertThm
import Univers.Vers.InvertWF
import Univers.Vers.Model
import Univers.Vers.NormalizeCanon
import Univers.Vers.NormalizeGo
import Univers.Vers.NormalizeThm
import Univers.Vers.PyRt
import Univers.Vers.PyRtLemmas
import Univers.Vers.SimplifyChar
import Univers.Vers.SimplifyFold
import Univers.Vers.SimplifyMain
import Univers.Vers.SimplifyMeaning
import Univers.Vers.SimplifyWalk
import Univers.Vers.SortThm
import Univers.Vers.Spec
import Univers.Vers.ValidateThm
