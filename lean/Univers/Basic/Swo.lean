/-
Generic order facts for C01/C02: a scheme whose six operators are induced by a transitive
three-way comparison has a strict weak order; sorting any two permutations of a list gives the
same sequence of equivalence classes.
-/
import Univers.Vers.Spec

namespace Univers

open Std

variable {V : Type} {o : VOps V} {cmp : V → V → Ordering}

structure StrictWeakOrder (lt gt : V → V → Bool) : Prop where
  irrefl : ∀ a, lt a a = false
  asymm : ∀ a b, lt a b = true → lt b a = false
  trans : ∀ a b c, lt a b = true → lt b c = true → lt a c = true
  conv : ∀ a b, gt a b = lt b a
  incomp_trans : ∀ a b c, (lt a b = false ∧ lt b a = false) → (lt b c = false ∧ lt c b = false) →
    (lt a c = false ∧ lt c a = false)

structure LawfulLtGt (o : VOps V) (cmp : V → V → Ordering) : Prop where
  lt : ∀ a b, o.lt a b = (cmp a b == .lt)
  gt : ∀ a b, o.gt a b = (cmp a b == .gt)

theorem Lawful.ltgt (h : Lawful o cmp) : LawfulLtGt o cmp := ⟨h.lt, h.gt⟩

theorem swo_of_ltgt [TransCmp cmp] (h : LawfulLtGt o cmp) : StrictWeakOrder o.lt o.gt where
  irrefl a := by simp [h.lt, ReflCmp.compare_self (cmp := cmp)]
  asymm a b hab := by
    simp only [h.lt, beq_iff_eq] at hab ⊢
    have : cmp b a = .gt := OrientedCmp.gt_of_lt hab
    simp [this]
  trans a b c hab hbc := by
    simp only [h.lt, beq_iff_eq] at hab hbc ⊢
    exact TransCmp.lt_trans hab hbc
  conv a b := by
    simp only [h.lt, h.gt]
    have : cmp b a = (cmp a b).swap := OrientedCmp.eq_swap
    rw [this]; cases cmp a b <;> rfl
  incomp_trans a b c hab hbc := by
    simp only [h.lt] at hab hbc ⊢
    have e1 : cmp a b = .eq := by
      have hs : cmp b a = (cmp a b).swap := OrientedCmp.eq_swap
      cases hc : cmp a b <;> simp_all [Ordering.swap]
    have e2 : cmp b c = .eq := by
      have hs : cmp c b = (cmp b c).swap := OrientedCmp.eq_swap
      cases hc : cmp b c <;> simp_all [Ordering.swap]
    have e3 : cmp a c = .eq := TransCmp.eq_trans e1 e2
    have e4 : cmp c a = .eq := OrientedCmp.eq_symm e3
    simp [e3, e4]

def eqvSetoid (cmp : V → V → Ordering) [TransCmp cmp] : Setoid V where
  r a b := cmp a b = .eq
  iseqv := ⟨fun _ => ReflCmp.compare_self, fun h => OrientedCmp.eq_symm h, fun h1 h2 => TransCmp.eq_trans h1 h2⟩

def cls (cmp : V → V → Ordering) [TransCmp cmp] (a : V) : Quotient (eqvSetoid cmp) :=
  Quotient.mk (eqvSetoid cmp) a

def clsCmp (cmp : V → V → Ordering) [TransCmp cmp] :
    Quotient (eqvSetoid cmp) → Quotient (eqvSetoid cmp) → Ordering :=
  Quotient.lift₂ cmp (by
    intro a b a' b' ha hb
    have ha' : cmp a a' = .eq := ha
    have hb' : cmp b b' = .eq := hb
    rw [TransCmp.congr_left ha', TransCmp.congr_right hb'])

theorem clsCmp_mk [TransCmp cmp] (a b : V) : clsCmp cmp (cls cmp a) (cls cmp b) = cmp a b := rfl

theorem clsCmp_antisymm [TransCmp cmp] (p q : Quotient (eqvSetoid cmp))
    (h1 : (clsCmp cmp p q).isLE = true) (h2 : (clsCmp cmp q p).isLE = true) : p = q := by
  induction p using Quotient.inductionOn with
  | h a =>
    induction q using Quotient.inductionOn with
    | h b =>
      have e : cmp a b = .eq := OrientedCmp.isLE_antisymm (cmp := cmp) h1 h2
      exact Quotient.sound e

/-- `sorted(versions)`: a stable sort calling only `<` -/
def sortBy (lt : V → V → Bool) (l : List V) : List V := l.mergeSort (fun a b => !lt b a)

theorem swo_of_lawful [TransCmp cmp] (h : Lawful o cmp) : StrictWeakOrder o.lt o.gt :=
  swo_of_ltgt h.ltgt

def subOps {P : V → Prop} (o : VOps V) : VOps { v : V // P v } where
  lt a b := o.lt a.1 b.1
  le a b := o.le a.1 b.1
  gt a b := o.gt a.1 b.1
  ge a b := o.ge a.1 b.1
  eq a b := o.eq a.1 b.1
  ne a b := o.ne a.1 b.1

theorem LawfulLtGt.sub {P : V → Prop} (h : LawfulLtGt o cmp) :
    LawfulLtGt (subOps (P := P) o) (fun a b => cmp a.1 b.1) := ⟨fun a b => h.lt a.1 b.1, fun a b => h.gt a.1 b.1⟩

theorem Lawful.sub {P : V → Prop} (h : Lawful o cmp) :
    Lawful (subOps (P := P) o) (fun a b => cmp a.1 b.1) :=
  ⟨fun a b => h.lt a.1 b.1, fun a b => h.gt a.1 b.1, fun a b => h.eq a.1 b.1,
   fun a b => h.le a.1 b.1, fun a b => h.ge a.1 b.1, fun a b => h.ne a.1 b.1⟩

theorem sort_classes_invariant [TransCmp cmp] (h : LawfulLtGt o cmp) (l₁ l₂ : List V)
    (hp : l₁.Perm l₂) :
    (sortBy o.lt l₁).map (cls cmp) = (sortBy o.lt l₂).map (cls cmp) := by
  have hle : ∀ a b : V, (!o.lt b a) = (cmp a b).isLE := by
    intro a b
    have hs : cmp b a = (cmp a b).swap := OrientedCmp.eq_swap
    rw [h.lt, hs]; cases cmp a b <;> rfl
  have htrans : ∀ a b c : V, (!o.lt b a) = true → (!o.lt c b) = true → (!o.lt c a) = true := by
    intro a b c; simp only [hle]; exact fun h1 h2 => TransCmp.isLE_trans h1 h2
  have htotal : ∀ a b : V, ((!o.lt b a) || (!o.lt a b)) = true := by
    intro a b
    simp only [hle]
    have hs : cmp b a = (cmp a b).swap := OrientedCmp.eq_swap
    rw [hs]; cases cmp a b <;> rfl
  have sorted : ∀ l : List V, ((sortBy o.lt l).map (cls cmp)).Pairwise
      (fun p q => (clsCmp cmp p q).isLE = true) := by
    intro l
    rw [List.pairwise_map]
    have := List.pairwise_mergeSort (le := fun a b => !o.lt b a) htrans htotal l
    apply List.Pairwise.imp _ this
    intro a b hab
    rw [clsCmp_mk, ← hle]; exact hab
  have hperm : ((sortBy o.lt l₁).map (cls cmp)).Perm ((sortBy o.lt l₂).map (cls cmp)) := by
    apply List.Perm.map
    exact ((List.mergeSort_perm l₁ _).trans hp).trans (List.mergeSort_perm l₂ _).symm
  exact List.Perm.eq_of_pairwise (le := fun p q => (clsCmp cmp p q).isLE = true)
    (fun p q _ _ h1 h2 => clsCmp_antisymm p q h1 h2) (sorted l₁) (sorted l₂) hperm

/-! ### C02: the six operators agree -/

def exactlyOne (a b c : Bool) : Bool := (a && !b && !c) || (!a && b && !c) || (!a && !b && c)

theorem ops_agree_of_lawful (h : Lawful o cmp) (a b : V) :
    exactlyOne (o.lt a b) (o.eq a b) (o.gt a b) = true ∧
    o.le a b = (o.lt a b || o.eq a b) ∧ o.ge a b = (o.gt a b || o.eq a b) ∧
    o.ne a b = !o.eq a b := by
  simp only [h.lt, h.eq, h.gt, h.le, h.ge, h.ne, exactlyOne]
  cases cmp a b <;> decide

theorem single_constraint_meaning (h : Lawful o cmp) (c : Cmpr) (u x : V) :
    (Con.mk c u).sat o x = c.holds (cmp x u) := by
  cases c <;> simp [Con.sat, VOps.op, Cmpr.holds, h.lt, h.gt, h.eq, h.le, h.ge, h.ne]

end Univers
