/-
What `padLex cmp d a b = .eq` says about the two lists: they agree, up to `cmp`-equivalence,
after the trailing padding elements are removed.  Stated through a projection `f` that is
constant on `cmp`-equivalence classes (take `f = id` when `cmp x y = .eq → x = y`).
Then, for comparators whose `.eq` is equality: `lexList` and `padLex` (on lists without the padding
element) find only equal lists equal; how `padLex` and `stripTrail` commute.
-/
import Univers.Basic.PadLex

namespace Univers

def stripTrail {β : Type} [DecidableEq β] (d : β) : List β → List β
  | [] => []
  | x :: xs => if stripTrail d xs = [] ∧ x = d then [] else x :: stripTrail d xs

theorem padLex_nil_left_eq {α β : Type} [DecidableEq β] {cmp : α → α → Ordering} {d : α}
    {f : α → β} (hf : ∀ x y, cmp x y = .eq → f x = f y) :
    ∀ b : List α, padLex cmp d [] b = .eq → stripTrail (f d) (b.map f) = []
  | [], _ => rfl
  | y :: ys, h => by
    simp only [padLex, Ordering.then_eq_eq] at h
    simp [stripTrail, padLex_nil_left_eq hf ys h.2, (hf _ _ h.1).symm]

theorem padLex_nil_right_eq {α β : Type} [DecidableEq β] {cmp : α → α → Ordering} {d : α}
    {f : α → β} (hf : ∀ x y, cmp x y = .eq → f x = f y) :
    ∀ a : List α, padLex cmp d a [] = .eq → stripTrail (f d) (a.map f) = []
  | [], _ => rfl
  | x :: xs, h => by
    simp only [padLex, Ordering.then_eq_eq] at h
    simp [stripTrail, padLex_nil_right_eq hf xs h.2, hf _ _ h.1]

theorem padLex_eq_stripTrail {α β : Type} [DecidableEq β] {cmp : α → α → Ordering} {d : α}
    {f : α → β} (hf : ∀ x y, cmp x y = .eq → f x = f y) :
    ∀ a b : List α, padLex cmp d a b = .eq →
      stripTrail (f d) (a.map f) = stripTrail (f d) (b.map f)
  | [], b, h => by rw [padLex_nil_left_eq hf b h]; rfl
  | x :: xs, [], h => by rw [padLex_nil_right_eq hf (x :: xs) h]; rfl
  | x :: xs, y :: ys, h => by
    simp only [padLex, Ordering.then_eq_eq] at h
    simp only [List.map_cons, stripTrail, padLex_eq_stripTrail hf xs ys h.2, hf _ _ h.1]

theorem padLex_eq_stripTrail_id {α : Type} [DecidableEq α] {cmp : α → α → Ordering} {d : α}
    (hc : ∀ x y, cmp x y = .eq → x = y) (a b : List α) (h : padLex cmp d a b = .eq) :
    stripTrail d a = stripTrail d b := by
  simpa using padLex_eq_stripTrail (f := id) hc a b h

theorem lexList_eq_eq {α} {cmp : α → α → Ordering} (hc : ∀ a b, cmp a b = .eq → a = b) :
    ∀ l1 l2 : List α, lexList cmp l1 l2 = .eq → l1 = l2
  | [], [], _ => rfl
  | [], _ :: _, h => nomatch h
  | _ :: _, [], h => nomatch h
  | x :: xs, y :: ys, h => by
    rw [lexList, Ordering.then_eq_eq] at h
    rw [hc x y h.1, lexList_eq_eq hc xs ys h.2]

theorem lexList_eq_iff {α} {cmp : α → α → Ordering} (hc : ∀ a b, cmp a b = .eq ↔ a = b)
    (l1 l2 : List α) : lexList cmp l1 l2 = .eq ↔ l1 = l2 := by
  fun_induction lexList cmp l1 l2 <;> simp [*]

theorem padLex_eq_eq {α} {cmp : α → α → Ordering} {d : α} (hc : ∀ a b, cmp a b = .eq → a = b) :
    ∀ l1 l2 : List α, d ∉ l1 → d ∉ l2 → padLex cmp d l1 l2 = .eq → l1 = l2
  | [], [], _, _, _ => rfl
  | [], y :: ys, _, h2, h => by
    rw [padLex, Ordering.then_eq_eq] at h
    exact absurd (hc d y h.1 ▸ List.mem_cons_self) h2
  | x :: xs, [], h1, _, h => by
    rw [padLex, Ordering.then_eq_eq] at h
    exact absurd (hc x d h.1 ▸ List.mem_cons_self) h1
  | x :: xs, y :: ys, h1, h2, h => by
    rw [padLex, Ordering.then_eq_eq] at h
    rw [hc x y h.1, padLex_eq_eq hc xs ys (fun m => h1 (List.mem_cons_of_mem _ m))
      (fun m => h2 (List.mem_cons_of_mem _ m)) h.2]

theorem stripTrail_append {β} [DecidableEq β] (d : β) (a b : List β) :
    stripTrail d (a ++ b) = if stripTrail d b = [] then stripTrail d a else a ++ stripTrail d b := by
  induction a with
  | nil => split <;> simp [stripTrail, *]
  | cons x a ih =>
    rw [List.cons_append, stripTrail, ih]
    split <;> simp [stripTrail, *]

theorem stripTrail_idem {β} [DecidableEq β] (d : β) (l : List β) :
    stripTrail d (stripTrail d l) = stripTrail d l := by
  induction l with
  | nil => rfl
  | cons x xs ih =>
    rw [stripTrail]
    split
    · rfl
    · rw [stripTrail, ih, if_neg ‹_›]

theorem padLex_stripTrail {α} [DecidableEq α] (c : α → α → Ordering) (d : α) (hd : c d d = .eq)
    (l r : List α) : padLex c d (stripTrail d l) r = padLex c d l r := by
  induction l generalizing r with
  | nil => rfl
  | cons x xs ih =>
    rw [stripTrail]
    split
    · rename_i h
      rw [h.2]
      cases r with
      | nil => rw [padLex, padLex, ← ih, h.1, hd, padLex]; rfl
      | cons y ys => rw [padLex, padLex, ← ih, h.1]
    · cases r <;> rw [padLex, padLex, ih]

theorem padLex_append_left {α} (c : α → α → Ordering) (d : α) (hc : ∀ a, c a a = .eq)
    (A X Y : List α) : padLex c d (A ++ X) (A ++ Y) = padLex c d X Y := by
  induction A with
  | nil => rfl
  | cons a A ih => simp [padLex, hc, ih]

theorem padLex_drop {α} (c : α → α → Ordering) (d : α) (hd : c d d = .eq) (i : Nat)
    (l r : List α) : padLex c d (l.drop i) (r.drop i) =
      (c (l.getD i d) (r.getD i d)).then (padLex c d (l.drop (i + 1)) (r.drop (i + 1))) := by
  have step : ∀ l r : List α,
      padLex c d l r = (c (l.headD d) (r.headD d)).then (padLex c d l.tail r.tail) := by
    intro l r; cases l <;> cases r <;> simp [padLex, hd]
  rw [step, List.tail_drop, List.tail_drop, List.headD_eq_head?_getD, List.headD_eq_head?_getD,
    List.head?_drop, List.head?_drop, List.getD_eq_getElem?_getD, List.getD_eq_getElem?_getD]

/-! ### the Boolean operators on `Nat` and `Char` as views of `compare` -/

theorem nat_lt_eq_compare (a b : Nat) : decide (a < b) = (compare a b == .lt) := by
  rw [Bool.eq_iff_iff, decide_eq_true_iff, beq_iff_eq, Nat.compare_eq_lt]
theorem nat_le_eq_compare (a b : Nat) : decide (a ≤ b) = (compare a b != .gt) := by
  rw [Bool.eq_iff_iff, decide_eq_true_iff, bne_iff_ne, Nat.compare_ne_gt]
theorem nat_gt_eq_compare (a b : Nat) : decide (a > b) = (compare a b == .gt) := by
  rw [Bool.eq_iff_iff, decide_eq_true_iff, beq_iff_eq, Nat.compare_eq_gt]
theorem nat_ge_eq_compare (a b : Nat) : decide (a ≥ b) = (compare a b != .lt) := by
  rw [Bool.eq_iff_iff, decide_eq_true_iff, bne_iff_ne, Nat.compare_ne_lt]
theorem nat_beq_eq_compare (a b : Nat) : (a == b) = (compare a b == .eq) := by
  rw [Bool.eq_iff_iff, beq_iff_eq, beq_iff_eq, Nat.compare_eq_eq]

theorem compare_toNat (c d : Char) : compare c d = compare c.toNat d.toNat := by
  simp only [compare, compareOfLessAndEq, Char.lt_def, UInt32.lt_iff_toNat_lt, ← Char.toNat_inj]
  rfl

end Univers
