/-
Decimal numerals as the scheme models print and read them: a model's `natStr` is
`Nat.toDigits 10` and its `parseNat` / `natOfDigits` / `natVal` is `Nat.ofDigitChars 10 · 0`, by
definition or (Deb's fuel loop) by a one-induction bridge, so the facts are stated once here, about
core's functions.
-/
namespace Univers

theorem digit_eq_digitChar {c : Char} (h : c.isDigit = true) : ∃ d, d < 10 ∧ c = d.digitChar := by
  have ⟨h1, h2⟩ : 48 ≤ c.toNat ∧ c.toNat ≤ 57 := Char.isDigit_iff_toNat.mp h
  have hd : c.toNat - 48 < 10 := Nat.sub_lt_left_of_lt_add h1 (Nat.lt_succ_of_le h2)
  exact ⟨_, hd, Char.toNat_inj.mp
    ((Nat.toNat_digitChar_of_lt_ten hd).trans (Nat.add_sub_cancel' h1)).symm⟩

theorem isAlpha_iff_toNat (c : Char) :
    c.isAlpha = true ↔ (65 ≤ c.toNat ∧ c.toNat ≤ 90) ∨ (97 ≤ c.toNat ∧ c.toNat ≤ 122) := by
  simp [Char.isAlpha, Char.isUpper, Char.isLower, UInt32.le_iff_toNat_le]

theorem digit_not_alpha {c : Char} (h : c.isDigit = true) : c.isAlpha = false := by
  have hd := Char.isDigit_iff_toNat.mp h
  simp only [Char.reduceToNat] at hd
  exact Bool.eq_false_iff.mpr fun ha => by have := (isAlpha_iff_toNat c).mp ha; omega

theorem toDigits_isDigit (n : Nat) : ∀ c ∈ Nat.toDigits 10 n, c.isDigit = true :=
  fun _ hc => Nat.isDigit_of_mem_toDigits (by decide) (by decide) hc

theorem toDigits_ofDigitChars_pos (cs : List Char) : ∀ n, (∀ c ∈ cs, c.isDigit = true) → 0 < n →
    Nat.toDigits 10 (Nat.ofDigitChars 10 cs n) = Nat.toDigits 10 n ++ cs := by
  induction cs with
  | nil => intro n _ _; exact (List.append_nil _).symm
  | cons c cs ih =>
    intro n hd hn
    obtain ⟨d, hd10, rfl⟩ := digit_eq_digitChar (hd c List.mem_cons_self)
    rw [Nat.ofDigitChars_cons_digitChar_of_lt_ten hd10,
      ih _ (fun x hx => hd x (List.mem_cons_of_mem _ hx)) (by omega),
      ← Nat.toDigits_append_toDigits (by decide) hn hd10, Nat.toDigits_of_lt_base hd10,
      List.append_assoc, List.singleton_append]

theorem toDigits_ofDigitChars (s : List Char) (hne : s ≠ []) (hd : ∀ c ∈ s, c.isDigit = true)
    (hz : s.head? = some '0' → s = ['0']) : Nat.toDigits 10 (Nat.ofDigitChars 10 s 0) = s := by
  cases s with
  | nil => exact absurd rfl hne
  | cons c cs =>
    obtain ⟨d, hd10, rfl⟩ := digit_eq_digitChar (hd c List.mem_cons_self)
    by_cases h0 : d = 0
    · subst h0; rw [hz rfl]; rfl
    · rw [Nat.ofDigitChars_cons_digitChar_of_lt_ten hd10,
        toDigits_ofDigitChars_pos cs _ (fun x hx => hd x (List.mem_cons_of_mem _ hx)) (by omega),
        Nat.mul_zero, Nat.zero_add, Nat.toDigits_of_lt_base hd10]
      rfl

theorem toDigits_head_ne_zero (k : Nat) (h : 0 < k) : (Nat.toDigits 10 k).head? ≠ some '0' := by
  induction k using Nat.base_induction 10 (by decide) with
  | single m hm =>
    rw [Nat.toDigits_of_lt_base hm]
    simp only [List.head?_cons, ne_eq, Option.some.injEq, Nat.digitChar_eq_zero]
    omega
  | digit m k hk hm ih =>
    have := ih hm
    rw [← Nat.toDigits_append_toDigits (by decide) hm hk]
    cases hd : Nat.toDigits 10 m with
    | nil => exact absurd hd Nat.toDigits_ne_nil
    | cons x xs => rw [hd] at this; exact this

theorem toDigits_head_zero (n : Nat) (h : (Nat.toDigits 10 n).head? = some '0') : n = 0 :=
  Nat.eq_zero_of_not_pos fun hn => toDigits_head_ne_zero n hn h

theorem ofDigitChars_inj {s t : List Char} (hs : s ≠ []) (ht : t ≠ [])
    (hds : ∀ c ∈ s, c.isDigit = true) (hdt : ∀ c ∈ t, c.isDigit = true)
    (hzs : s.head? = some '0' → s = ['0']) (hzt : t.head? = some '0' → t = ['0'])
    (h : Nat.ofDigitChars 10 s 0 = Nat.ofDigitChars 10 t 0) : s = t := by
  rw [← toDigits_ofDigitChars s hs hds hzs, ← toDigits_ofDigitChars t ht hdt hzt, h]

end Univers
