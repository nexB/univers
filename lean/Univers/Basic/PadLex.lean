/-
Comparator-law library on top of core `Std.OrientedCmp` / `Std.TransCmp`:
padded lexicographic comparison of lists (the shorter list is padded with a default element
that may sit anywhere in the element order), as used by dpkg, rpmvercmp, pacman vercmp,
Gem::Version, Maven ComparableVersion, Gentoo suffix chains.
-/
namespace Univers

open Std

/-- padded lexicographic comparison: the shorter list is padded with `d` -/
def padLex {α : Type} (cmp : α → α → Ordering) (d : α) : List α → List α → Ordering
  | [], [] => .eq
  | [], b :: bs => (cmp d b).then (padLex cmp d [] bs)
  | a :: as, [] => (cmp a d).then (padLex cmp d as [])
  | a :: as, b :: bs => (cmp a b).then (padLex cmp d as bs)

instance padLex.instOriented {α} (cmp : α → α → Ordering) [OrientedCmp cmp] (d : α) :
    OrientedCmp (padLex cmp d) where
  eq_swap := by
    intro a b
    induction a generalizing b with
    | nil =>
      induction b with
      | nil => simp [padLex]
      | cons y ys ih =>
        simp only [padLex, Ordering.swap_then]
        rw [← ih, ← OrientedCmp.eq_swap]
    | cons x xs ih =>
      cases b with
      | nil =>
        simp only [padLex, Ordering.swap_then]
        rw [← ih, ← OrientedCmp.eq_swap]
      | cons y ys =>
        simp only [padLex, Ordering.swap_then]
        rw [← ih, ← OrientedCmp.eq_swap]

/-- the step used at every position of a lexicographic transitivity proof -/
theorem then_isLE_trans {o1 o2 o3 p1 p2 p3 : Ordering}
    (hle : o1.isLE → o2.isLE → o3.isLE)
    (hlt1 : o1 = .lt → o2.isLE → o3 = .lt)
    (hlt2 : o1.isLE → o2 = .lt → o3 = .lt)
    (ih : p1.isLE → p2.isLE → p3.isLE)
    (h1 : (o1.then p1).isLE) (h2 : (o2.then p2).isLE) : (o3.then p3).isLE := by
  cases o1 with
  | gt => cases h1
  | lt =>
    have : o2.isLE := by cases o2 <;> first | rfl | cases h2
    rw [hlt1 rfl this]; rfl
  | eq =>
    cases o2 with
    | gt => cases h2
    | lt => rw [hlt2 rfl rfl]; rfl
    | eq =>
      cases o3 with
      | lt => rfl
      | gt => cases hle rfl rfl
      | eq => exact ih h1 h2

instance padLex.instTrans {α} (cmp : α → α → Ordering) [TransCmp cmp] (d : α) :
    TransCmp (padLex cmp d) where
  isLE_trans := by
    intro a b c
    induction a generalizing b c with
    | nil =>
      induction b generalizing c with
      | nil => intro _ h; exact h
      | cons y ys ihb =>
        cases c with
        | nil =>
          intro h1 h2
          simp [padLex, Ordering.isLE]
        | cons z zs =>
          intro h1 h2
          simp only [padLex] at h1 h2 ⊢
          exact then_isLE_trans (fun a b => TransCmp.isLE_trans a b)
            (fun a b => TransCmp.lt_of_lt_of_isLE a b) (fun a b => TransCmp.lt_of_isLE_of_lt a b)
            (ihb (c := zs)) h1 h2
    | cons x xs ih =>
      cases b with
      | nil =>
        cases c with
        | nil => intro h1 _; exact h1
        | cons z zs =>
          intro h1 h2
          simp only [padLex] at h1 h2 ⊢
          exact then_isLE_trans (fun a b => TransCmp.isLE_trans a b)
            (fun a b => TransCmp.lt_of_lt_of_isLE a b) (fun a b => TransCmp.lt_of_isLE_of_lt a b)
            (ih (b := []) (c := zs)) h1 h2
      | cons y ys =>
        cases c with
        | nil =>
          intro h1 h2
          simp only [padLex] at h1 h2 ⊢
          exact then_isLE_trans (fun a b => TransCmp.isLE_trans a b)
            (fun a b => TransCmp.lt_of_lt_of_isLE a b) (fun a b => TransCmp.lt_of_isLE_of_lt a b)
            (ih (b := ys) (c := [])) h1 h2
        | cons z zs =>
          intro h1 h2
          simp only [padLex] at h1 h2 ⊢
          exact then_isLE_trans (fun a b => TransCmp.isLE_trans a b)
            (fun a b => TransCmp.lt_of_lt_of_isLE a b) (fun a b => TransCmp.lt_of_isLE_of_lt a b)
            (ih (b := ys) (c := zs)) h1 h2

/-- lexicographic product of two comparators on a pair -/
def lexPair {α β : Type} (c1 : α → α → Ordering) (c2 : β → β → Ordering) :
    α × β → α × β → Ordering := fun a b => (c1 a.1 b.1).then (c2 a.2 b.2)

instance lexPair.instOriented {α β} (c1 : α → α → Ordering) (c2 : β → β → Ordering)
    [OrientedCmp c1] [OrientedCmp c2] : OrientedCmp (lexPair c1 c2) where
  eq_swap := by
    intro a b
    simp only [lexPair, Ordering.swap_then]
    rw [← OrientedCmp.eq_swap (cmp := c1), ← OrientedCmp.eq_swap (cmp := c2)]

instance lexPair.instTrans {α β} (c1 : α → α → Ordering) (c2 : β → β → Ordering)
    [TransCmp c1] [TransCmp c2] : TransCmp (lexPair c1 c2) where
  isLE_trans := by
    intro a b c h1 h2
    simp only [lexPair] at h1 h2 ⊢
    exact then_isLE_trans (fun a b => TransCmp.isLE_trans a b)
      (fun a b => TransCmp.lt_of_lt_of_isLE a b) (fun a b => TransCmp.lt_of_isLE_of_lt a b)
      (fun a b => TransCmp.isLE_trans a b) h1 h2

/-- pull-back of a comparator along a key function -/
def cmpOn {α β : Type} (f : α → β) (c : β → β → Ordering) : α → α → Ordering :=
  fun a b => c (f a) (f b)

instance cmpOn.instOriented {α β} (f : α → β) (c : β → β → Ordering) [OrientedCmp c] :
    OrientedCmp (cmpOn f c) where
  eq_swap := by intro a b; exact OrientedCmp.eq_swap (cmp := c)

instance cmpOn.instTrans {α β} (f : α → β) (c : β → β → Ordering) [TransCmp c] :
    TransCmp (cmpOn f c) where
  isLE_trans := by intro a b c'; exact TransCmp.isLE_trans (cmp := c)

/-- plain lexicographic comparison of lists (shorter prefix first) -/
def lexList {α : Type} (cmp : α → α → Ordering) : List α → List α → Ordering
  | [], [] => .eq
  | [], _ :: _ => .lt
  | _ :: _, [] => .gt
  | a :: as, b :: bs => (cmp a b).then (lexList cmp as bs)

instance lexList.instOriented {α} (cmp : α → α → Ordering) [OrientedCmp cmp] :
    OrientedCmp (lexList cmp) where
  eq_swap := by
    intro a b
    induction a generalizing b with
    | nil => cases b <;> rfl
    | cons x xs ih =>
      cases b with
      | nil => rfl
      | cons y ys =>
        simp only [lexList, Ordering.swap_then]
        rw [← ih, ← OrientedCmp.eq_swap]

instance lexList.instTrans {α} (cmp : α → α → Ordering) [TransCmp cmp] :
    TransCmp (lexList cmp) where
  isLE_trans := by
    intro a b c
    induction a generalizing b c with
    | nil => cases b <;> cases c <;> simp [lexList, Ordering.isLE]
    | cons x xs ih =>
      cases b with
      | nil => cases c <;> simp [lexList, Ordering.isLE]
      | cons y ys =>
        cases c with
        | nil => simp [lexList, Ordering.isLE]
        | cons z zs =>
          intro h1 h2
          simp only [lexList] at h1 h2 ⊢
          exact then_isLE_trans (fun a b => TransCmp.isLE_trans a b)
            (fun a b => TransCmp.lt_of_lt_of_isLE a b) (fun a b => TransCmp.lt_of_isLE_of_lt a b)
            (ih (b := ys) (c := zs)) h1 h2

end Univers
