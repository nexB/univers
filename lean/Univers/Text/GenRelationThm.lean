/-
Agreement theorems for the relation converters of `DebianVersionRange` and `RpmVersionRange` as translated from
`univers/version_range.py` on every run (`Univers/Gen/PyTextDeb*.lean`, `PyTextRpm*.lean`): `split`,
`build_constraint_from_string`, `from_native` and `from_natives` are the model's `splitReq` on the class's regenerated
comparator dict, `relConstraint`, and `debNatives` / `rpmNatives` of `Univers/Text/Advisory.lean`, which the deb / rpm
part of the theorems of C06 is about.  The advisory model reads ASCII text (`GenSplitReqThm.lean`).
-/
import Univers.Gen.PyTextDebFromNatives
import Univers.Gen.PyTextRpmFromNatives
import Univers.Text.GenAdvisoryThm

namespace Univers.Gen.Text
open Univers Univers.PyRt Univers.Text Univers.Text.Vers Univers.Text.PyText

variable (mk : List Char → Except TErr (List Char))

/-- `split` of a class with a dict of native comparators -/
theorem rel_split_eq (cls : String) (strip : List Char) (string : List Char) (hs : Ascii string) :
    (nativeDictE cls >>= fun d => py_split_req mk string d none strip)
      = (match Advisory.nativeDict cls with
         | none => .error .AttributeError
         | some d => Advisory.splitReq string d none strip) := by
  unfold nativeDictE
  cases Advisory.nativeDict cls with
  | none => rfl
  | some d => exact py_split_req_eq mk string hs d none strip

/-- the body shared by the two classes: split on the class's dict, build the version, build the constraint -/
theorem rel_build_eq (cls : String) (strip : List Char) (string : List Char) (hs : Ascii string) :
    ((nativeDictE cls >>= fun d => py_split_req mk string d none strip) >>= fun (x : Option (List Char) × List Char) =>
      match x with
      | (comparator, version) => mk version >>= fun version => mkTConOpt comparator version)
      = (match Advisory.nativeDict cls with
         | none => .error .AttributeError
         | some d => Advisory.relConstraint mk d strip string) := by
  rw [rel_split_eq mk cls strip string hs]
  unfold Advisory.relConstraint
  cases Advisory.nativeDict cls with
  | none => rfl
  | some d =>
    dsimp only
    cases Advisory.splitReq string d none strip with
    | error e => rfl
    | ok cv => exact buildCon_eq mk cv.1 cv.2

/-- `DebianVersionRange.split`, with `strip=")("` -/
theorem deb_split_eq (string : List Char) (hs : Ascii string) :
    deb_split mk string
      = (match Advisory.nativeDict "DebianVersionRange" with
         | none => .error .AttributeError
         | some d => Advisory.splitReq string d none [')', '(']) :=
  rel_split_eq mk "DebianVersionRange" [')', '('] string hs

/-- `DebianVersionRange.build_constraint_from_string` -/
theorem deb_build_constraint_eq (string : List Char) (hs : Ascii string) :
    deb_build_constraint mk string
      = (match Advisory.nativeDict "DebianVersionRange" with
         | none => .error .AttributeError
         | some d => Advisory.relConstraint mk d [')', '('] string) :=
  rel_build_eq mk "DebianVersionRange" [')', '('] string hs

/-- `RpmVersionRange.build_constraint_from_string` -/
theorem rpm_build_constraint_eq (string : List Char) (hs : Ascii string) :
    rpm_build_constraint mk string
      = (match Advisory.nativeDict "RpmVersionRange" with
         | none => .error .AttributeError
         | some d => Advisory.relConstraint mk d [','] string) :=
  rel_build_eq mk "RpmVersionRange" [','] string hs

/-- the comprehension over `build_constraint_from_string` -/
theorem rel_natives_eq (cls : String) (strip : List Char) (build : List Char → Except TErr TCon)
    (strings : List (List Char))
    (hb : ∀ s ∈ strings, build s = (match Advisory.nativeDict cls with
                                    | none => .error .AttributeError
                                    | some d => Advisory.relConstraint mk d strip s)) :
    (strings.mapM build >>= fun cs => .ok cs) = Advisory.relNatives mk cls strip strings := by
  unfold Advisory.relNatives
  induction strings with
  | nil => rfl
  | cons s ss ih =>
    have ih := ih fun t ht => hb t (List.mem_cons_of_mem _ ht)
    simp only [List.mapM_cons, Advisory.collect, hb s (List.mem_cons_self ..), ← ih, bind, Except.bind, pure, Except.pure]
    cases Advisory.nativeDict cls with
    | none => rfl
    | some d =>
      dsimp only
      cases Advisory.relConstraint mk d strip s with
      | error e => rfl
      | ok k => dsimp only; cases ss.mapM build <;> rfl

/-- `DebianVersionRange.from_natives` -/
theorem deb_from_natives_eq (strings : List (List Char)) (hs : ∀ s ∈ strings, Ascii s) :
    deb_from_natives mk strings = Advisory.debNatives mk strings :=
  rel_natives_eq mk _ _ _ strings fun s h => deb_build_constraint_eq mk s (hs s h)

/-- `RpmVersionRange.from_natives` -/
theorem rpm_from_natives_eq (strings : List (List Char)) (hs : ∀ s ∈ strings, Ascii s) :
    rpm_from_natives mk strings = Advisory.rpmNatives mk strings :=
  rel_natives_eq mk _ _ _ strings fun s h => rpm_build_constraint_eq mk s (hs s h)

/-- `from_native(string)` is `from_natives([string])`, for both classes -/
theorem deb_from_native_eq (string : List Char) (hs : Ascii string) :
    deb_from_native mk string = Advisory.debNatives mk [string] :=
  (singleton_eq_mapM _ string).trans (deb_from_natives_eq mk [string] (List.forall_mem_singleton.mpr hs))

theorem rpm_from_native_eq (string : List Char) (hs : Ascii string) :
    rpm_from_native mk string = Advisory.rpmNatives mk [string] :=
  (singleton_eq_mapM _ string).trans (rpm_from_natives_eq mk [string] (List.forall_mem_singleton.mpr hs))

example : deb_from_natives (fun v => .ok v) ["(>> 2.23)".toList, "<< 2.24".toList]
    = .ok [.mk .gt "2.23".toList, .mk .lt "2.24".toList] := by
  repeat rw [String.toList_ofList]
  decide +kernel

example : rpm_from_native (fun v => .ok v) "<> 1.0-1".toList = .ok [.mk .ne "1.0-1".toList] := by
  repeat rw [String.toList_ofList]
  decide +kernel

end Univers.Gen.Text
