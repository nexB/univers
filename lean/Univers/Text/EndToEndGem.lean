/-
The end-to-end theorem at a concrete scheme (gem), and a concrete string
`" VERS:Gem/ <2.0 | >= 1.0|"` that meets its hypotheses about the text (registered scheme, canonical
version texts, a rendering of the expression, ASCII): the theorem is about real inputs of the library.
-/
import Univers.Text.EndToEndThm
import Univers.Scheme.GemThm

namespace Univers.Text.EndToEnd

open Univers Univers.Text Univers.Text.Vers Univers.Text.Str Std

/-- `RubygemsVersion` as the text layer and the constraint algebra see it -/
def gemT : TextScheme where
  R := Gem.Raw
  construct s := match Gem.construct s with
    | .ok r => .ok r
    | .error .invalid => .error .InvalidVersion
    | .error (.other n) => .error (.other n)
  str := Gem.str
  ops := Gem.verOps

theorem gem_contains_text (mkVer : MkVer) (hmk : mkVer "RubygemsVersion" = gemT.mk')
    (e : Expr) (hreg : Registered e.scheme "RubygemsVersion") (hne : e.items ≠ []) (hstar : StarAlone e.items)
    (hcanon : ∀ c ∈ e.items, ConOk gemT.mk' c)
    (vals : List (Con Gem.Raw)) (hvals : gemT.consOf e.items = .ok vals) (hwf : WF Gem.vercmp vals)
    (t : List Char) (hr : Renders e t) (ha : isAsciiRepr (removeSpaces t) = true)
    (x : List Char) (v : Gem.Raw) (hx : gemT.construct x = .ok v) :
    ∃ s, s.Perm vals ∧ WFSorted Gem.vercmp s ∧ contains gemT mkVer t x = .ok (denote Gem.vercmp s v) :=
  @contains_text_eq_denote gemT Gem.vercmp (inferInstanceAs (TransCmp Gem.vercmp)) Gem.verOps_lawful mkVer
    "RubygemsVersion" hmk e hreg hne hstar hcanon vals hvals hwf t hr ha x v hx

deriving instance DecidableEq for Except

def exE : Expr := ⟨"gem".toList, [.mk .lt "2.0".toList, .mk .ge "1.0".toList]⟩
def exT : List Char := " VERS:Gem/ <2.0 | >= 1.0|".toList

example : Registered exE.scheme "RubygemsVersion" := by
  refine ⟨"GemVersionRange", ?_, ?_⟩ <;> decide +kernel

example : ∀ c ∈ exE.items, ConOk gemT.mk' c := by
  intro c hc
  simp only [exE, List.mem_cons, List.mem_nil_iff, or_false] at hc
  rcases hc with rfl | rfl <;> exact ⟨by decide +kernel, by decide +kernel⟩

example : Renders exE exT :=
  ⟨"VERS".toList, "Gem".toList, ["<2.0".toList, ">=1.0".toList], 0, 1, by decide +kernel,
    by decide +kernel, .cons (.explicit .lt _) (.cons (.explicit .ge _) .nil), by decide +kernel⟩

example : isAsciiRepr (removeSpaces exT) = true := by decide +kernel

end Univers.Text.EndToEnd
