/-
End to end (C04 ∘ C05 ∘ C11 ∘ C13): for a registered scheme whose version class has lawful
operators, every spelling of a well-formed expression — whitespace anywhere, any letter case of
`vers` and of the scheme, stray bars, `=` written or not, constraints in any order — is parsed,
turned into version objects, sorted and tested for membership of a version text with exactly the
interval-set meaning of the expression.
-/
import Univers.Text.EndToEnd
import Univers.Text.VersThm
import Univers.Props.C04

namespace Univers.Text.EndToEnd

open Univers Univers.Text Univers.Text.Vers Univers.Text.Str Std

theorem contains_text_eq_denote (T : TextScheme) {cmp : T.R → T.R → Ordering} [TransCmp cmp]
    (hlaw : Lawful T.ops cmp) (mkVer : MkVer) (vc : String) (hmk : mkVer vc = T.mk')
    (e : Expr) (hreg : Registered e.scheme vc) (hne : e.items ≠ []) (hstar : StarAlone e.items)
    (hcanon : ∀ c ∈ e.items, ConOk T.mk' c)
    (vals : List (Con T.R)) (hvals : T.consOf e.items = .ok vals) (hwf : WF cmp vals)
    (t : List Char) (hr : Renders e t) (ha : isAsciiRepr (removeSpaces t) = true)
    (x : List Char) (v : T.R) (hx : T.construct x = .ok v) :
    ∃ s, s.Perm vals ∧ WFSorted cmp s ∧ contains T mkVer t x = .ok (denote cmp s v) := by
  have hok : ∀ c ∈ e.items, ConOk (mkVer vc) c := by rw [hmk]; exact hcanon
  have hfs := fromString_exact mkVer e vc t hreg hne hstar hok hr ha
  obtain ⟨s, hs, hp, hw, hc⟩ := C04.range_contains_eq_denote hlaw vals hwf v
  refine ⟨s, hp, hw, ?_⟩
  simp only [contains, hfs, constraintsOf, hvals, hs, hx, hc]

/-- two spellings of one expression answer every membership question alike -/
theorem contains_text_presentation_independent (T : TextScheme) (mkVer : MkVer) (vc : String)
    (e : Expr) (hreg : Registered e.scheme vc) (hne : e.items ≠ []) (hstar : StarAlone e.items)
    (hok : ∀ c ∈ e.items, ConOk (mkVer vc) c)
    (t t' : List Char) (hr : Renders e t) (hr' : Renders e t')
    (ha : isAsciiRepr (removeSpaces t) = true) (ha' : isAsciiRepr (removeSpaces t') = true)
    (x : List Char) : contains T mkVer t x = contains T mkVer t' x := by
  simp only [contains, fromString_exact mkVer e vc t hreg hne hstar hok hr ha,
    fromString_exact mkVer e vc t' hreg hne hstar hok hr' ha']

end Univers.Text.EndToEnd
