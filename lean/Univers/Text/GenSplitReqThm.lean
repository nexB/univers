/-
Agreement theorems for `split_req` and `split_req_bracket_notation` as translated from `univers/version_range.py`
on every run (`Univers/Gen/PyTextSplitReq.lean`, `PyTextSplitReqBracket.lean`): they are the model's `splitReq` and
`splitReqBracket` of `Univers/Text/Advisory.lean` that the theorems of C15 (and the deb / rpm part of C06) are about.
-/
import Univers.Gen.PyTextSplitReq
import Univers.Gen.PyTextSplitReqBracket
import Univers.Text.Advisory
import Univers.Text.GenTextThm

namespace Univers.Gen.Text
open Univers Univers.PyRt Univers.Text Univers.Text.Vers Univers.Text.PyText

variable (mk : List Char → Except TErr (List Char))

/-! The advisory model reads ASCII text (its `isPySpace` is the ASCII part of `str.isspace`); the string run-time of the
translated code (`Text/Str.lean`) knows the Unicode blanks too.  On ASCII text the two agree. -/

def Ascii (s : List Char) : Prop := ∀ c ∈ s, c.toNat < 128

theorem Ascii.subset {s t : List Char} (h : Ascii s) (hts : t ⊆ s) : Ascii t := fun c hc => h c (hts hc)

theorem isSpace_ascii {c : Char} (h : c.toNat < 128) : Str.isSpace c = Advisory.isPySpace c := by
  have hs : (c == ' ') = (c.toNat == 32) := by
    rw [Bool.eq_iff_iff, beq_iff_eq, beq_iff_eq, ← Char.toNat_inj]; rfl
  -- the blanks that only the string run-time knows are not ASCII
  have far (k : Nat) (hk : 128 ≤ k) : (c.toNat == k) = false := by rw [beq_eq_false_iff_ne]; omega
  have far' (k : Nat) (hk : 128 ≤ k) : decide (k ≤ c.toNat) = false := by rw [decide_eq_false_iff_not]; omega
  simp only [Str.isSpace, Advisory.isPySpace, hs, far, far', Nat.reduceLeDiff, Bool.or_false, Bool.false_and]
  generalize c.toNat = n
  rw [Bool.eq_iff_iff]
  simp only [Bool.or_eq_true, Bool.and_eq_true, decide_eq_true_eq, beq_iff_eq]
  omega

theorem removeSpaces_ascii {s : List Char} (h : Ascii s) : Str.removeSpaces s = Advisory.removeSpaces s := by
  rw [Str.removeSpaces_eq_filter]
  exact List.filter_congr fun c hc => by rw [isSpace_ascii (h c hc)]

theorem split_req_for_eq (string cmps0) (dflt : Option (List Char)) (strip) (cs : List Char)
    (cmps : List (List Char × Option (List Char))) :
    pyFor cmps () (py_split_req_for1_body mk string cmps0 dflt strip cs) (py_split_req_for1_after mk string cmps0 dflt strip cs)
      = (match cmps.find? (fun kv => kv.1.isPrefixOf cs) with
         | some kv => .ok (kv.2, Advisory.lstripSet kv.1 cs)
         | none =>
           match dflt with
           | some d => if d.isEmpty then .error .ValueError else .ok (some d, cs)
           | none => .error .ValueError) := by
  induction cmps with
  | nil => rcases dflt with _ | _ | _ <;> rfl
  | cons kv cmps ih =>
    rw [pyFor_cons, List.find?_cons, py_split_req_for1_body, Str.startsWith]
    cases kv.1.isPrefixOf cs with
    | true => rfl
    | false => exact ih

/-- `split_req` (on ASCII text) -/
theorem py_split_req_eq (string : List Char) (hs : Ascii string) (comparators : List (List Char × Option (List Char)))
    (dflt : Option (List Char)) (strip : List Char) :
    py_split_req mk string comparators dflt strip = Advisory.splitReq string comparators dflt strip := by
  unfold py_split_req Advisory.splitReq
  simp only [py_remove_spaces_eq, bind, Except.bind, removeSpaces_ascii hs]
  exact split_req_for_eq mk string comparators dflt strip _ comparators

theorem dropWhile_congr {α : Type} {p q : α → Bool} : ∀ {l : List α}, (∀ a ∈ l, p a = q a) →
    l.dropWhile p = l.dropWhile q
  | [], _ => rfl
  | a :: l, h => by
    simp only [List.dropWhile_cons, h a (List.mem_cons_self ..)]
    split
    · exact dropWhile_congr fun b hb => h b (List.mem_cons_of_mem _ hb)
    · rfl

theorem stripWs_ascii {s : List Char} (h : Ascii s) : Str.stripWs s = Advisory.stripWs s := by
  have hd {t : List Char} (ht : Ascii t) : t.dropWhile Str.isSpace = t.dropWhile Advisory.isPySpace :=
    dropWhile_congr fun c hc => isSpace_ascii (ht c hc)
  unfold Str.stripWs Str.rstripWs Str.lstripWs Advisory.stripWs
  rw [hd h, hd (h.subset fun c hc => List.dropWhile_subset _ (List.mem_reverse.mp hc))]

/-- `split_req_bracket_notation` (on ASCII text) -/
theorem py_split_req_bracket_eq (string : List Char) (hs : Ascii string) :
    py_split_req_bracket mk string = Advisory.splitReqBracket string := by
  unfold py_split_req_bracket Advisory.splitReqBracket
  have hr : Ascii (Advisory.removeSpaces string) := hs.subset fun c hc => (List.mem_filter.mp hc).1
  -- `startsWith` / `endsWith` are left to the closing `rfl`: unfolded here they would leave the tests with the
  -- `Decidable` instances of the folded form, which `Step.cont_ite` does not match
  simp only [py_remove_spaces_eq, bind, Except.bind, pyFor_cons, pyFor_nil, py_split_req_bracket_for1_body,
    py_split_req_bracket_for1_after, py_split_req_bracket_for2_body, py_split_req_bracket_for2_after,
    removeSpaces_ascii hs, stripWs_ascii hr, Step.cont_ite, Step.cont_ret, Step.cont_next]
  rfl

end Univers.Gen.Text
