/-
Text layer — THEOREMS about the Maven / NuGet bracket-range converter
(model `MavenRange.lean`, spec `MavenRangeSpec.lean`).
-/
import Univers.Text.MavenRangeSpec
import Univers.Scheme.MavenThm
import Univers.Scheme.NugetThm
import Univers.Text.Str

namespace Univers.Text.MavenRange

open Univers Univers.Text

theorem dropWhile_of_all_not {p : Char → Bool} {s : List Char} (h : s.all (fun c => !p c) = true) :
    s.dropWhile p = s := by
  cases s with
  | nil => rfl
  | cons c cs =>
    simp only [List.all_cons, Bool.and_eq_true, Bool.not_eq_true'] at h
    simp [h.1]

theorem strip_of_all {s : List Char} (h : s.all (fun c => !isPySpace c) = true) : strip s = s := by
  unfold strip
  rw [dropWhile_of_all_not h, dropWhile_of_all_not (by rwa [List.all_reverse]), List.reverse_reverse]

theorem removeBlanks_of_all {s : List Char} (h : s.all (fun c => !isPySpace c) = true) :
    removeBlanks s = s := by
  refine List.filter_eq_self.mpr fun c hc => bne_iff_ne.mpr fun e => ?_
  have := List.all_eq_true.mp h c hc
  rw [e] at this
  cases this

theorem dropWhile_concat_ne_nil {p : Char → Bool} (l : List Char) {c : Char} (h : p c = false) :
    (l ++ [c]).dropWhile p ≠ [] := by
  intro e
  have := Str.dropWhile_eq_nil_iff.mp e c (List.mem_append_right l List.mem_cons_self)
  rw [h] at this
  cases this

theorem strip_cons_ne_nil {c : Char} (s : List Char) (h : isPySpace c = false) :
    strip (c :: s) ≠ [] := by
  unfold strip
  rw [List.dropWhile_cons_of_neg (by simp [h]), List.reverse_cons]
  exact fun e => dropWhile_concat_ne_nil _ h (List.reverse_eq_nil_iff.mp e)

theorem splitOn_eq (sep : Char) (s : List Char) : splitOn sep s = Str.splitChar sep s := by
  induction s with
  | nil => rfl
  | cons c cs ih =>
    simp only [splitOn, Str.splitChar, ih]
    cases Str.splitChar sep cs <;> rfl

theorem find_eq (ch : Char) (s : List Char) : find ch s = s.idxOf? ch := by
  induction s with
  | nil => rfl
  | cons c cs ih => simp only [find, List.idxOf?_cons, ih, beq_iff_eq]

/-- `closeIdx` is the position of the first closing bracket of either kind -/
theorem closeIdx_cons (c : Char) (s : List Char) :
    closeIdx (c :: s) = if c = ']' ∨ c = ')' then some 0 else (closeIdx s).map (· + 1) := by
  rw [closeIdx, closeIdx, find, find]  -- both sides; `find` on `c :: s` only
  by_cases h1 : c = ']'
  · subst h1; cases find ')' s <;> rfl
  · by_cases h2 : c = ')'
    · subst h2; cases find ']' s <;> rfl
    · rw [if_neg h1, if_neg h2, if_neg (not_or.mpr ⟨h1, h2⟩)]
      cases find ']' s <;> cases find ')' s <;> try rfl
      simp only [Option.map_some, Nat.add_lt_add_iff_right, apply_ite (Option.map _)]

theorem closeIdx_first {pre rest : List Char} {c : Char} (hpre : ∀ x ∈ pre, x ≠ ']' ∧ x ≠ ')')
    (hc : c = ']' ∨ c = ')') : closeIdx (pre ++ c :: rest) = some pre.length := by
  induction pre with
  | nil => exact (closeIdx_cons c rest).trans (if_pos hc)
  | cons x xs ih =>
    rw [List.forall_mem_cons] at hpre
    rw [List.cons_append, closeIdx_cons, if_neg (not_or.mpr hpre.1), ih hpre.2]
    rfl

theorem closeIdx_lt {s : List Char} {i : Nat} (h : closeIdx s = some i) : i < s.length := by
  induction s generalizing i with
  | nil => cases h
  | cons c cs ih =>
    rw [closeIdx_cons] at h
    split at h
    · cases h; exact Nat.succ_pos _
    · obtain ⟨j, hj, rfl⟩ := Option.map_eq_some_iff.mp h
      exact Nat.succ_lt_succ (ih hj)

section
variable {vcmp : List Char → List Char → Ordering} {mkVer : List Char → Except TErr (List Char)}

/-! The error lemmas follow the model functions branch by branch: `nofun` where the branch returns
`.ok`. -/

theorem restrictionInner_error {li ui : Bool} {inner : List Char} {e : TErr} :
    restrictionInner vcmp li ui inner = .error e → e = errRestriction ∨ e = .ValueError := by
  fun_cases restrictionInner vcmp li ui inner
  · rintro ⟨⟩; exact .inl rfl
  · rintro ⟨⟩; exact .inl rfl
  · nofun
  · nofun
  · rintro ⟨⟩; exact .inr rfl
  · rintro ⟨⟩; exact .inl rfl
  · nofun

/-- the errors of `Restriction.__init__`, apart from the `IndexError` on a whitespace-only text -/
theorem restriction_error {spec : List Char} {e : TErr} (hs : strip spec ≠ []) :
    restriction vcmp spec = .error e → e = errRestriction ∨ e = .ValueError := by
  fun_cases restriction vcmp spec
  · nofun
  · next h => exact absurd h hs
  · exact restrictionInner_error

theorem rangeLoop_error (fuel : Nat) (spec : List Char) (upper : Option (List Char)) {e : TErr} :
    rangeLoop vcmp fuel spec upper = .error e →
      e = errRange ∨ e = errRestriction ∨ e = .ValueError := by
  fun_induction rangeLoop vcmp fuel spec upper
  · nofun
  · rintro ⟨⟩; exact .inl rfl
  · next spec _ hopen _ _ _ hr =>
    rintro ⟨⟩
    -- the text handed to `Restriction` starts with the bracket: no `IndexError`
    refine .inr (restriction_error ?_ hr)
    cases spec with
    | nil => cases hopen
    | cons c cs =>
      refine strip_cons_ne_nil _ ?_
      simp only [startsOpen, Bool.or_eq_true, beq_iff_eq] at hopen
      rcases hopen with rfl | rfl <;> rfl
  · rintro ⟨⟩; exact .inl rfl
  · next hl ih => rintro ⟨⟩; exact ih hl
  · nofun
  · nofun

theorem versionRange_error {spec : List Char} {e : TErr} :
    versionRange vcmp spec = .error e → e = errRange ∨ e = errRestriction ∨ e = .ValueError := by
  fun_cases versionRange vcmp spec
  · next hl => rintro ⟨⟩; exact rangeLoop_error _ _ _ hl
  · rintro ⟨⟩; exact .inl rfl
  · nofun
  · nofun

theorem boundCons_error {c : Cmpr} {b : Option (List Char)} {e : TErr} :
    boundCons mkVer c b = .error e → ∃ t, mkVer t = .error e := by
  fun_cases boundCons mkVer c b
  · nofun
  · next hm => rintro ⟨⟩; exact ⟨_, hm⟩
  · nofun

theorem restrictionCons_error {r : Restriction} {e : TErr} :
    restrictionCons mkVer vcmp r = .error e → ∃ t, mkVer t = .error e := by
  fun_cases restrictionCons mkVer vcmp r
  · next hm => rintro ⟨⟩; exact ⟨_, hm⟩
  · nofun
  · next hm => rintro ⟨⟩; exact boundCons_error hm
  · next hm => rintro ⟨⟩; exact boundCons_error hm
  · nofun

theorem consOf_error (rs : List Restriction) {e : TErr} :
    consOf mkVer vcmp rs = .error e → ∃ t, mkVer t = .error e := by
  fun_induction consOf mkVer vcmp rs
  · nofun
  · next hr => rintro ⟨⟩; exact restrictionCons_error hr
  · next hr ih => rintro ⟨⟩; exact ih hr
  · nofun

/-- C16 for the Maven / NuGet converter: `from_native` returns, or raises an error of the
`ValueError` family (`ValueError`, `RestrictionParseError`, `VersionRangeParseError`) or what the
version class raised on a bound text.  No `IndexError` escapes from `spec.strip()[0]`. -/
theorem maven_native_errors (mkVer : List Char → Except TErr (List Char))
    (vcmp : List Char → List Char → Ordering) (t : List Char) (e : TErr)
    (h : fromNative mkVer vcmp t = .error e) :
    (e = errRange ∨ e = errRestriction ∨ e = .ValueError) ∨ ∃ v, mkVer v = .error e := by
  unfold fromNative at h
  split at h
  · next hv => cases h; exact .inl (versionRange_error hv)
  · exact .inr (consOf_error _ h)

theorem maven_native_declared (mkVer : List Char → Except TErr (List Char))
    (vcmp : List Char → List Char → Ordering)
    (hmk : ∀ v e, mkVer v = .error e → declared e = true) (t : List Char) :
    (∃ cs, fromNative mkVer vcmp t = .ok cs) ∨
      ∃ e, fromNative mkVer vcmp t = .error e ∧ declared e = true := by
  cases h : fromNative mkVer vcmp t with
  | ok cs => exact .inl ⟨cs, rfl⟩
  | error e =>
    refine .inr ⟨e, rfl, ?_⟩
    rcases maven_native_errors mkVer vcmp t e h with (rfl | rfl | rfl) | ⟨v, hv⟩
    · decide +kernel
    · decide +kernel
    · decide +kernel
    · exact hmk v e hv

/-- `safe t` is `optSafe (some t)` and `t` is `optText (some t)` -/
theorem optSafe_mem {o : Option (List Char)} (h : optSafe o = true) {c : Char}
    (hc : c ∈ optText o) : safeChar c = true := by
  cases o with
  | none => cases hc
  | some t =>
    simp only [optSafe, safe, Bool.and_eq_true, List.all_eq_true] at h
    exact h.2 c hc

theorem optSafe_not_mem {o : Option (List Char)} (h : optSafe o = true) {c : Char}
    (hc : safeChar c = false) : c ∉ optText o :=
  fun hm => by rw [optSafe_mem h hm] at hc; cases hc

theorem inner_char {c : Char} (h : safeChar c = true ∨ c = ',') :
    isPySpace c = false ∧ c ≠ ']' ∧ c ≠ ')' := by
  rcases h with h | rfl
  · simp only [safeChar, Bool.and_eq_true, Bool.not_eq_true', bne_iff_ne] at h
    exact ⟨h.1.1.1.1.1, h.2, h.1.1.2⟩
  · decide

theorem optText_roundtrip {o : Option (List Char)} (h : optSafe o = true) :
    (if (optText o).isEmpty then none else some (optText o)) = o := by
  cases o with
  | none => rfl
  | some t =>
    cases t with
    | nil => cases h
    | cons c cs => rfl

theorem restriction_bracketed (li ui : Bool) (inner : List Char)
    (hall : (openB li :: (inner ++ [closeB ui])).all (fun c => !isPySpace c) = true) :
    restriction vcmp (openB li :: (inner ++ [closeB ui])) = restrictionInner vcmp li ui inner := by
  have hin : inner.all (fun c => !isPySpace c) = true := by
    simp only [List.all_cons, List.all_append, Bool.and_eq_true] at hall; exact hall.2.1
  unfold restriction
  rw [strip_of_all hall]
  simp only [List.isEmpty_cons, Bool.false_eq_true, if_false, List.drop_one, List.tail_cons,
    List.dropLast_concat, strip_of_all hin]
  rw [← List.cons_append, List.getLast?_concat]
  cases li <;> cases ui <;> rfl

theorem render_shape (s : Seg) (hv : s.valid vcmp = true) :
    ∃ li ui inner, s.render = openB li :: (inner ++ [closeB ui]) ∧
      (∀ c ∈ inner, safeChar c = true ∨ c = ',') ∧
      restrictionInner vcmp li ui inner = .ok s.toRestriction := by
  cases s with
  | exact a =>
    have hc : ',' ∉ a := optSafe_not_mem (o := some a) hv rfl
    exact ⟨true, true, a, rfl, fun c h => .inl (optSafe_mem (o := some a) hv h),
      by simp [restrictionInner, hc, Seg.toRestriction]⟩
  | range li lo hi ui =>
    simp only [Seg.valid, Bool.and_eq_true] at hv
    obtain ⟨⟨⟨hlo, hhi⟩, _⟩, hpair⟩ := hv
    refine ⟨li, ui, optText lo ++ ',' :: optText hi, rfl, fun c h => ?_, ?_⟩
    · rcases List.mem_append.mp h with h | h
      · exact .inl (optSafe_mem hlo h)
      · exact (List.mem_cons.mp h).symm.imp (optSafe_mem hhi) id
    · unfold restrictionInner
      rw [if_pos (by simp), splitOn_eq, Str.splitChar_append _ (optSafe_not_mem hlo rfl),
        Str.splitChar_of_not_mem (optSafe_not_mem hhi rfl)]
      simp only [optText_roundtrip hlo, optText_roundtrip hhi]
      cases lo <;> cases hi
      · rfl
      · rfl
      · simp [optText, Seg.toRestriction]
      · simp only [Bool.and_eq_true, bne_iff_ne, ne_eq] at hpair
        simp [optText, Seg.toRestriction, hpair.1.1, hpair.2]

theorem render_all_ns {s : Seg} (hv : s.valid vcmp = true) :
    s.render.all (fun c => !isPySpace c) = true := by
  obtain ⟨li, ui, inner, hr, hin, -⟩ := render_shape s hv
  have : inner.all (fun c => !isPySpace c) = true :=
    List.all_eq_true.mpr fun c hc => by rw [(inner_char (hin c hc)).1]; rfl
  rw [hr]
  simp only [List.all_cons, List.all_append, this]; cases li <;> cases ui <;> rfl

theorem restriction_render (s : Seg) (hv : s.valid vcmp = true) :
    restriction vcmp s.render = .ok s.toRestriction := by
  obtain ⟨li, ui, inner, hr, -, hri⟩ := render_shape s hv
  have hall := render_all_ns hv
  rw [hr] at hall ⊢
  rw [restriction_bracketed li ui inner hall, hri]

theorem popComma_length_le (t : List Char) : (popComma t).length ≤ t.length := by
  fun_cases popComma t
  · exact Nat.le_succ _
  · exact Nat.le_refl _

theorem spelled_popComma {e : List Seg} {t : List Char} (h : Spelled e t) : popComma t = t := by
  cases h with
  | nil => rfl
  | cons s | consComma s => rcases s with ⟨_ | _, _, _, _⟩ | _ <;> rfl

theorem spelled_cons {s : Seg} {es : List Seg} {t : List Char} (h : Spelled (s :: es) t) :
    ∃ rest, t = s.render ++ rest ∧ Spelled es (popComma rest) := by
  cases h with
  | cons _ _ t h' => exact ⟨t, rfl, (spelled_popComma h').symm ▸ h'⟩
  | consComma _ _ t h' => exact ⟨',' :: t, rfl, h'⟩

theorem toRestriction_lower (s : Seg) : s.toRestriction.lower = s.lower := by cases s <;> rfl
theorem toRestriction_upper (s : Seg) : s.toRestriction.upper = s.upper := by cases s <;> rfl

theorem rangeLoop_step (s : Seg) (rest : List Char) (n : Nat) (up : Option (List Char))
    (hv : s.valid vcmp = true) (hov : overlaps vcmp up s.toRestriction = false) :
    rangeLoop vcmp (n + 1) (s.render ++ rest) up =
      match rangeLoop vcmp n (popComma rest) s.upper with
      | .error e => .error e
      | .ok (rs, tail) => .ok (s.toRestriction :: rs, tail) := by
  obtain ⟨li, ui, inner, hr, hin, -⟩ := render_shape s hv
  have hopen : startsOpen (s.render ++ rest) = true := by rw [hr]; cases li <;> rfl
  -- the first closing bracket is the last character of the set
  have hclose : closeIdx (s.render ++ rest) = some (inner.length + 1) := by
    rw [hr, List.cons_append, List.append_assoc, ← List.cons_append]
    exact closeIdx_first (List.forall_mem_cons.mpr
      ⟨by cases li <;> decide, fun c hc => (inner_char (hin c hc)).2⟩) (by cases ui <;> decide)
  have hlen : inner.length + 1 + 1 = s.render.length := by rw [hr]; simp
  rw [rangeLoop, if_pos hopen, hclose]
  simp only [hlen, List.take_left, List.drop_left, restriction_render s hv, hov, Bool.false_eq_true, if_false,
    toRestriction_upper]
  rfl

theorem overlaps_of_chainOk {up : Option (List Char)} {s : Seg} {ss : List Seg}
    (h : chainOk vcmp up (s :: ss) = true) :
    overlaps vcmp up s.toRestriction = false ∧ chainOk vcmp s.upper ss = true := by
  simp only [chainOk, Bool.and_eq_true] at h
  refine ⟨?_, h.2⟩
  unfold overlaps
  rw [toRestriction_lower]
  cases up with
  | none => rfl
  | some u =>
    cases hl : s.lower with
    | none => simp [hl] at h
    | some l => simpa [hl] using h.1

theorem rangeLoop_spelled : ∀ (e : List Seg) {t : List Char}, Spelled e t →
    ∀ (fuel : Nat) (up : Option (List Char)), t.length ≤ fuel →
      e.all (Seg.valid vcmp) = true → chainOk vcmp up e = true →
      rangeLoop vcmp fuel t up = .ok (e.map Seg.toRestriction, [])
  | [], _, .nil, fuel, _, _, _, _ => by cases fuel <;> rfl
  | s :: es, _, hs, fuel, up, hfuel, hall, hchain => by
    obtain ⟨rest, rfl, hs'⟩ := spelled_cons hs
    rw [List.all_cons, Bool.and_eq_true] at hall
    obtain ⟨hov, hch⟩ := overlaps_of_chainOk hchain
    have hpos : 0 < s.render.length := by cases s <;> exact Nat.succ_pos _
    have := popComma_length_le rest
    rw [List.length_append] at hfuel
    cases fuel with
    | zero => omega
    | succ n =>
      rw [rangeLoop_step s rest n up hall.1 hov,
        rangeLoop_spelled es hs' n s.upper (by omega) hall.2 hch]
      rfl

theorem versionRange_spelled {e : List Seg} {t : List Char} (hs : Spelled e t)
    (hv : Valid vcmp e = true) :
    versionRange vcmp t = .ok (e.map Seg.toRestriction) := by
  rw [Valid, Bool.and_eq_true] at hv
  unfold versionRange
  rw [rangeLoop_spelled e hs t.length none (Nat.le_refl _) hv.1 hv.2]
  rfl

theorem boundCons_ok {f : List Char → List Char} (c : Cmpr) {b : Option (List Char)}
    (h : ∀ v ∈ b, mkVer v = .ok (f v)) :
    boundCons mkVer c b =
      .ok (match (generalizing := false) b with | some a => [.mk c (f a)] | none => []) := by
  cases b with
  | none => rfl
  | some a => rw [boundCons, h a rfl]

theorem restrictionCons_seg (f : List Char → List Char) (s : Seg) (hv : s.valid vcmp = true)
    (hmk : ∀ v ∈ s.versions, mkVer v = .ok (f v)) :
    restrictionCons mkVer vcmp s.toRestriction = .ok (s.cons f) := by
  cases s with
  | exact a =>
    rw [restrictionCons, if_pos (show boundsEq vcmp (Seg.exact a).toRestriction = true from rfl)]
    exact (hmk a (List.mem_singleton.mpr rfl)) ▸ rfl
  | range li lo hi ui =>
    simp only [Seg.valid, Bool.and_eq_true] at hv
    obtain ⟨⟨_, hsome⟩, hpair⟩ := hv
    have hbe : boundsEq vcmp ⟨lo, hi, li, ui, false⟩ = false := by
      cases lo <;> cases hi
      · cases hsome
      · rfl
      · rfl
      · simp only [Bool.and_eq_true, bne_iff_ne, ne_eq] at hpair
        simp [boundsEq, hpair.1.2]
    simp only [Seg.versions, List.mem_append, Option.mem_toList] at hmk
    simp only [Seg.toRestriction, restrictionCons, hbe, Bool.false_eq_true, if_false,
      boundCons_ok _ fun v h => hmk v (.inl h), boundCons_ok _ fun v h => hmk v (.inr h)]
    cases lo <;> cases hi <;> rfl

theorem consOf_segs (f : List Char → List Char) (e : List Seg)
    (hv : e.all (Seg.valid vcmp) = true) (hmk : ∀ v ∈ versionsE e, mkVer v = .ok (f v)) :
    consOf mkVer vcmp (e.map Seg.toRestriction) = .ok (consE f e) := by
  induction e with
  | nil => rfl
  | cons s ss ih =>
    simp only [List.all_cons, Bool.and_eq_true] at hv
    simp only [versionsE, List.flatMap_cons, List.mem_append] at hmk
    simp only [List.map_cons, consOf,
      restrictionCons_seg f s hv.1 (fun v h => hmk v (.inl h)),
      ih hv.2 (fun v h => hmk v (.inr h)), consE]

/-- C06, Maven / NuGet part: for a `Valid` expression of bracket sets (safe version texts, bounds
in order, sets in order) and every spelling `t` of it (sets followed by optional commas, blanks
anywhere), if the version class accepts the bound texts, `from_native(t)` is exactly the
constraints the expression states (`consE`), in order -/
theorem maven_interval_exact (mkVer : List Char → Except TErr (List Char))
    (vcmp : List Char → List Char → Ordering) (f : List Char → List Char)
    (e : List Seg) (t : List Char) (hr : Renders e t) (hv : Valid vcmp e = true)
    (hmk : ∀ v ∈ versionsE e, mkVer v = .ok (f v)) :
    fromNative mkVer vcmp t = .ok (consE f e) := by
  unfold fromNative
  rw [versionRange_spelled hr hv]
  simp only [Valid, Bool.and_eq_true] at hv
  exact consOf_segs f e hv.1 hmk

end

section sound
variable (vcmp : List Char → List Char → Ordering)

/-- the two bound tests of `Restriction.__contains__` are the two kinds of constraint -/
theorem boundSat_eq [Std.OrientedCmp vcmp] (x b : List Char) (incl : Bool) :
    conSat vcmp x (.mk (if incl then .ge else .gt) b) =
      (if vcmp b x == .eq && !incl then false else if vcmp b x == .gt then false else true) ∧
    conSat vcmp x (.mk (if incl then .le else .lt) b) =
      (if vcmp b x == .eq && !incl then false else if vcmp b x == .lt then false else true) := by
  rw [Std.OrientedCmp.eq_swap (cmp := vcmp) (a := b) (b := x)]
  cases incl <;> simp only [conSat, if_true, Bool.false_eq_true, if_false] <;> cases vcmp x b <;>
    exact ⟨rfl, rfl⟩

/-- the common part of the two soundness theorems: orientation, and `hcongr`: in the
`lower_bound == upper_bound` branch two bounds that compare equal (two different objects) compare
alike with `x` -/
theorem sound_core [Std.OrientedCmp vcmp] (r : Restriction) (hs : r.sound vcmp = true)
    (cs : List TCon) (hc : restrictionCons (fun t => .ok t) vcmp r = .ok cs) (x : List Char)
    (hcongr : ∀ a b, r.lower = some a → r.upper = some b → r.same = false → vcmp a b = .eq →
      vcmp a x = vcmp b x) :
    cs.all (conSat vcmp x) = r.contains vcmp x := by
  obtain ⟨lower, upper, li, ui, same⟩ := r
  simp only [Restriction.sound, Bool.and_eq_true, Bool.or_eq_true, Bool.not_eq_true',
    beq_iff_eq] at hs
  obtain ⟨⟨hsome, hsame⟩, hincl⟩ := hs
  unfold restrictionCons at hc
  by_cases hbe : boundsEq vcmp ⟨lower, upper, li, ui, same⟩ = true
  · -- the `=` branch: both inclusive, and two present bounds
    obtain ⟨rfl, rfl⟩ : li = true ∧ ui = true := by simpa [hbe] using hincl
    rw [if_pos hbe] at hc
    cases hc
    cases lower <;> cases upper
    case none.none => simp at hsome
    case some.some a b =>
      -- `same` is only set together with identical bound texts
      have hab : vcmp a x = vcmp b x := by
        cases same
        · exact hcongr a b rfl rfl rfl (by simpa [boundsEq] using hbe)
        · rw [Option.some.inj (hsame.resolve_left nofun)]
      simp only [boundStr, List.all_cons, List.all_nil, Bool.and_true, conSat,
        Restriction.contains, Bool.not_true, Bool.and_false, Bool.false_eq_true, if_false]
      rw [← hab, Std.OrientedCmp.eq_swap (cmp := vcmp) (a := a) (b := x)]
      cases vcmp x a <;> rfl
    all_goals
      cases same
      · cases hbe
      · cases hsame.resolve_left nofun
  · rw [if_neg hbe] at hc
    have andIf : ∀ p q : Bool, (if (!p) = true then false else q) = (p && q) := by decide
    cases lower <;> cases upper <;> simp only [boundCons] at hc <;> cases hc <;>
      simp only [List.cons_append, List.nil_append, List.all_cons, List.all_nil,
        Restriction.contains, boundSat_eq, andIf, Bool.and_true, Bool.true_and]

/-- C06, the produced constraints against the native matcher: for a lawful comparison of
`maven.Version`s (`Std.TransCmp`) and a version class that returns the texts unchanged, `x`
satisfies all the constraints produced for a `sound` restriction `r` iff `x in r`
(`Restriction.__contains__`).  The excluded restrictions are real defects, see the
counterexamples. -/
theorem maven_native_sound [Std.TransCmp vcmp] (r : Restriction) (hs : r.sound vcmp = true)
    (cs : List TCon) (hc : restrictionCons (fun t => .ok t) vcmp r = .ok cs) (x : List Char) :
    cs.all (conSat vcmp x) = r.contains vcmp x :=
  sound_core vcmp r hs cs hc x fun _ _ _ _ _ => Std.TransCmp.congr_left

/-- the same with orientation only (which the real comparison of `maven.Version` satisfies,
although it is not transitive): every `sound` restriction but `[a,b]` with `a == b` for two
DIFFERENT texts -/
theorem maven_native_sound_oriented [Std.OrientedCmp vcmp] (r : Restriction)
    (hs : r.sound vcmp = true) (hsame : boundsEq vcmp r = true → r.same = true)
    (cs : List TCon) (hc : restrictionCons (fun t => .ok t) vcmp r = .ok cs) (x : List Char) :
    cs.all (conSat vcmp x) = r.contains vcmp x := by
  refine sound_core vcmp r hs cs hc x fun a b ha hb hf hab => ?_
  rw [hsame (by simp [boundsEq, ha, hb, hab])] at hf
  cases hf

theorem restriction_same {spec : List Char} {r : Restriction}
    (h : restriction vcmp spec = .ok r) : r.same = true → r.lower = r.upper := by
  revert h
  fun_cases restriction vcmp spec
  · rintro ⟨⟩; nofun
  · nofun
  · -- only the single-version form sets `same`
    fun_cases restrictionInner vcmp _ _ _
    · nofun
    · nofun
    · rintro ⟨⟩; nofun
    · rintro ⟨⟩; nofun
    · nofun
    · nofun
    · rintro ⟨⟩ _; rfl

theorem seg_cons_mem (x : List Char) (s : Seg) :
    (s.cons id).all (conSat vcmp x) = s.mem vcmp x := by
  cases s with
  | exact a => simp [Seg.cons, Seg.mem, conSat]
  | range li lo hi ui =>
    simp only [Seg.cons, List.all_append, Seg.mem]
    congr 1
    · cases lo <;> cases li <;> simp [lowerCmpr, conSat]
    · cases hi <;> cases ui <;> simp [upperCmpr, conSat]

end sound

/-- Known defect, the soft requirement: a bare version such as `"1.0"` parses to the "everything"
restriction with both bounds `None`; `lower_bound == upper_bound` holds, and the converter emits
`=` with the version text `str(None)`: `vers:maven/None`.  For NuGet the version class rejects
`"None"` with `InvalidVersion`. -/
theorem maven_soft_requirement_counterexample (mkVer : List Char → Except TErr (List Char))
    (vcmp : List Char → List Char → Ordering) :
    fromNative mkVer vcmp ['1', '.', '0'] =
      (match mkVer ['N', 'o', 'n', 'e'] with
       | .error e => .error e
       | .ok v => .ok [.mk .eq v]) ∧
    versionRange vcmp ['1', '.', '0'] = .ok [everything] ∧
    (∀ x, everything.contains vcmp x = true) := by
  refine ⟨?_, rfl, fun x => rfl⟩
  show consOf mkVer vcmp [everything] = _
  simp only [consOf, restrictionCons, show boundsEq vcmp everything = true from rfl, if_true,
    show boundStr everything.lower = ['N', 'o', 'n', 'e'] from rfl]
  cases mkVer ['N', 'o', 'n', 'e'] <;> rfl

/-- Known defect: `(a,b)`, `[a,b)`, `(a,b]` with `a` and `b` different texts of EQUAL versions
(`MavenVersionRange.from_native("(1.0,1)")` is `vers:maven/1.0`): the converter emits `= a`, but
the native restriction contains nothing, not even `a`. -/
theorem maven_exclusive_equal_bounds_counterexample (vcmp : List Char → List Char → Ordering)
    (a b : List Char) (ui : Bool) (hab : vcmp a b = .eq) (haa : vcmp a a = .eq) :
    restrictionCons (fun t => .ok t) vcmp ⟨some a, some b, false, ui, false⟩ = .ok [.mk .eq a] ∧
    conSat vcmp a (.mk .eq a) = true ∧
    Restriction.contains vcmp ⟨some a, some b, false, ui, false⟩ a = false := by
  simp [restrictionCons, boundsEq, hab, boundStr, conSat, haa, Restriction.contains]


/-- the union reading: the constraints of `from_native` come in one group per restriction, and a
version is in the native range iff it satisfies all the constraints of one group, when every
restriction is `sound`.  (How `VersionRange.__contains__` of univers reads the FLAT sorted list is
Layer B.) -/
theorem maven_native_sound_range (vcmp : List Char → List Char → Ordering) [Std.TransCmp vcmp]
    (rs : List Restriction) (hs : ∀ r ∈ rs, r.sound vcmp = true) :
    ∃ groups : List (List TCon),
      consOf (fun t => .ok t) vcmp rs = .ok groups.flatten ∧ groups.length = rs.length ∧
      ∀ x, groups.any (fun g => g.all (conSat vcmp x)) = rangeContains vcmp rs x := by
  induction rs with
  | nil => exact ⟨[], rfl, rfl, fun _ => rfl⟩
  | cons r rs ih =>
    obtain ⟨gs, hgs, hlen, hx⟩ := ih (fun r' h => hs r' (List.mem_cons_of_mem _ h))
    cases hr : restrictionCons (fun t => .ok t) vcmp r with
    | error e => obtain ⟨_, h⟩ := restrictionCons_error hr; cases h
    | ok g =>
      refine ⟨g :: gs, by simp [consOf, hr, hgs], by simp [hlen], fun x => ?_⟩
      have := maven_native_sound vcmp r (hs r List.mem_cons_self) g hr x
      simp only [List.any_cons, this, hx x, rangeContains]

section forms
variable (mkVer : List Char → Except TErr (List Char)) (vcmp : List Char → List Char → Ordering)
  (f : List Char → List Char)

theorem renders_single (s : Seg) (hv : s.valid vcmp = true) : Renders [s] s.render := by
  unfold Renders
  rw [removeBlanks_of_all (render_all_ns hv)]
  exact List.append_nil s.render ▸ Spelled.cons s [] [] .nil

theorem maven_interval_exact_pair (li ui : Bool) (a b : List Char)
    (hv : (Seg.range li (some a) (some b) ui).valid vcmp = true)
    (ha : mkVer a = .ok (f a)) (hb : mkVer b = .ok (f b)) :
    fromNative mkVer vcmp (openB li :: (a ++ ',' :: b ++ [closeB ui])) =
      .ok [.mk (lowerCmpr li) (f a), .mk (upperCmpr ui) (f b)] := by
  refine maven_interval_exact mkVer vcmp f _ _ (renders_single vcmp (.range li (some a) (some b) ui) hv)
    (by simp [Valid, hv, chainOk]) fun v hv' => ?_
  simp [versionsE, Seg.versions] at hv'
  rcases hv' with rfl | rfl <;> assumption

end forms

/-- a toy comparison, to show that the hypotheses are satisfiable -/
def toyCmp (a b : List Char) : Ordering := compare a.length b.length

example : Valid toyCmp [Seg.closed ['1'] ['2', '2'], .range false (some ['3', '3', '3']) none false,
    .exact ['4', '4', '4', '4']] = true := by decide

example : fromNative (fun t => .ok t) toyCmp " [1, 22],(333,) [4444]".toList =
    .ok [.mk .ge ['1'], .mk .le ['2', '2'], .mk .gt ['3', '3', '3'], .mk .eq ['4', '4', '4', '4']] :=
  maven_interval_exact _ toyCmp id
    [Seg.closed ['1'] ['2', '2'], .range false (some ['3', '3', '3']) none false,
      .exact ['4', '4', '4', '4']] _
    (Spelled.consComma _ _ _ (Spelled.cons _ _ _ (Spelled.cons _ _ _ Spelled.nil)))
    (by decide) (fun _ _ => rfl)

/-- the tuple-unpacking `ValueError` of `[1,2,3]` (declared family, but a bare `ValueError`) -/
example (vcmp : List Char → List Char → Ordering) (mkVer : List Char → Except TErr (List Char)) :
    fromNative mkVer vcmp "[1,2,3]".toList = .error .ValueError := rfl

/-! ### instantiation with the Layer-A models `Univers.Maven`, `Univers.Nuget`

The same definitions as `mavenVcmp`, `mavenMk`, `nugetMk` of `Univers/Driver/MavenConan.lean`,
which is what the correspondence check runs against the real code. -/

deriving instance DecidableEq for Con, Except

/-- `maven.Version(a).__cmp__(maven.Version(b))` on the texts -/
def realVcmp (a b : List Char) : Ordering :=
  Maven.cmpList (Maven.parse (strip a)) (Maven.parse (strip b))

/-- `str(MavenVersion(text))` -/
def mavenMk (t : List Char) : Except TErr (List Char) :=
  match Maven.construct t with
  | .ok r => .ok (Maven.str r)
  | .error .invalid => .error .InvalidVersion
  | .error (.other n) => .error (.other n)

/-- `str(NugetVersion(text))` -/
def nugetMk (t : List Char) : Except TErr (List Char) :=
  match Nuget.construct t with
  | .ok r => .ok (Nuget.str r)
  | .error .invalid => .error .InvalidVersion
  | .error (.other n) => .error (.other n)

/-- the real comparison is oriented (Layer A: `Maven.cmpList_swap`) — it is NOT transitive
(`Maven.trans_counterexample`, `Maven.incomp_trans_counterexample`) -/
instance : Std.OrientedCmp realVcmp where
  eq_swap := Maven.cmpList_swap _ _

/-- `maven_native_sound_oriented` with the REAL comparison of `maven.Version` -/
theorem maven_native_sound_real (r : Restriction) (hs : r.sound realVcmp = true)
    (hsame : boundsEq realVcmp r = true → r.same = true) (cs : List TCon)
    (hc : restrictionCons (fun t => .ok t) realVcmp r = .ok cs) (x : List Char) :
    cs.all (conSat realVcmp x) = r.contains realVcmp x :=
  maven_native_sound_oriented realVcmp r hs hsame cs hc x

/-- Known defect, `[a,b]` with different texts of equal versions, real comparison:
`MavenVersionRange.from_native("[1,1-0.1]")` is `vers:maven/1`, which `MavenVersion("1-0.2")`
satisfies, while `maven.Version("1-0.2") in maven.VersionRange("[1,1-0.1]")` is `False`
(`1 == 1-0.1` and `1 == 1-0.2` but `1-0.1 < 1-0.2`) -/
theorem maven_equal_bounds_counterexample :
    fromNative mavenMk realVcmp "[1,1-0.1]".toList = .ok [.mk .eq ['1']] ∧
    conSat realVcmp "1-0.2".toList (.mk .eq ['1']) = true ∧
    sat realVcmp "[1,1-0.1]".toList "1-0.2".toList = .ok false := by
  decide +kernel

/-- the soft requirement with the real version classes -/
theorem maven_soft_requirement_real :
    fromNative mavenMk realVcmp "1.0".toList = .ok [.mk .eq "None".toList] ∧
    fromNative nugetMk realVcmp "1.0".toList = .error .InvalidVersion := by
  decide +kernel

theorem mavenMk_eq (t : List Char) : mavenMk t = .ok (Maven.normalizeStr t) := rfl

/-- with the real comparison and the real `MavenVersion`: the version texts of the constraints are
the bound texts normalized by `Version.normalize` (all whitespace removed, leading `v`/`V`
stripped), e.g. `[v1,2]` ↦ `>=1, <=2` -/
theorem maven_interval_exact_real (e : List Seg) (t : List Char) (hr : Renders e t)
    (hv : Valid realVcmp e = true) :
    fromNative mavenMk realVcmp t = .ok (consE Maven.normalizeStr e) :=
  maven_interval_exact mavenMk realVcmp Maven.normalizeStr e t hr hv (fun v _ => mavenMk_eq v)

example : fromNative mavenMk realVcmp "[1.0, 2.0), [3-beta,)".toList =
    .ok [.mk .ge "1.0".toList, .mk .lt "2.0".toList, .mk .ge "3-beta".toList] := by
  decide +kernel

/-- `maven.Version` does not strip a leading `v` (only `MavenVersion` does): `v3-beta` starts with
the string item `v`, which sorts below every number, so the second set "overlaps" the first -/
example : fromNative mavenMk realVcmp "[1.0,2.0),[v3-beta,)".toList = .error errRange := by
  decide +kernel

/-- C16, Maven: `MavenVersion` accepts every text -/
theorem maven_native_declared_real (vcmp : List Char → List Char → Ordering) (t : List Char) :
    (∃ cs, fromNative mavenMk vcmp t = .ok cs) ∨
      ∃ e, fromNative mavenMk vcmp t = .error e ∧ declared e = true :=
  maven_native_declared mavenMk vcmp (fun _ _ => nofun) t

/-- C16, NuGet: `NugetVersion(...)` raises `InvalidVersion` only.  (`NugetVersion("")` is no longer
accepted with the value `None`, so the constructor's `sorted` cannot raise either.) -/
theorem nuget_native_declared_real (vcmp : List Char → List Char → Ordering) (t : List Char) :
    (∃ cs, fromNative nugetMk vcmp t = .ok cs) ∨
      ∃ e, fromNative nugetMk vcmp t = .error e ∧ declared e = true :=
  maven_native_declared nugetMk vcmp (fun v e => by
    fun_cases nugetMk v
    · nofun
    · rintro ⟨⟩; rfl
    · next n hn => exact absurd hn (Nuget.construct_declared v n)) t

end Univers.Text.MavenRange
