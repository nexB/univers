/-
From the Python source to the specification, in one statement each: the functions of `univers/version_range.py` as
TRANSLATED on every run (`Univers/Gen/PyText*.lean`), applied to any rendering of an expression in the advisory notation
(any spelling of each comparator, optional blanks, one string or several; ASCII text), return exactly the constraints the
expression states, in the registered class of the scheme.  Each is the agreement theorem of the translated function
(`GenAdvisoryThm`, `GenRelationThm`) followed by the exactness theorem of the model (`AdvisoryThm`): C15 for GitHub and
Snyk, the deb / rpm part of C06 for the relation converters.
-/
import Univers.Text.GenAdvisoryThm
import Univers.Text.GenRelationThm
import Univers.Text.AdvisoryThm

namespace Univers.Gen.Text
open Univers Univers.PyRt Univers.Text Univers.Text.Vers Univers.Text.PyText Univers.Text.Advisory

variable (mkVer : MkVer)

/-- C15 for `build_range_from_github_advisory_constraint` -/
theorem py_github_exact (scheme cls vc : String)
    (hs : rangeClassOf scheme = some cls) (hv : Advisory.versionClassOf cls = some vc)
    (gs : List (List Item)) (h : GroupsWF githubDict githubBad gs) (hascii : ∀ i ∈ renderGithub gs, Ascii i) :
    py_github_range mkVer scheme.toList (renderGithub gs)
      = (match constraintsOf (mkVer vc) (astOf gs) with
         | .error e => .error e
         | .ok ks => .ok (cls, ks)) := by
  rw [py_github_range_eq mkVer scheme (renderGithub gs) hascii]
  simp only [hs, github_exact_scheme mkVer scheme cls vc hs hv gs h]
  cases constraintsOf (mkVer vc) (astOf gs) <;> rfl

/-- C15 for `build_range_from_snyk_advisory_string` -/
theorem py_snyk_exact (scheme cls vc : String)
    (hs : rangeClassOf scheme = some cls) (hv : Advisory.versionClassOf cls = some vc)
    (ss : List SnykStr) (h : ∀ s ∈ ss, s.WF) (hascii : ∀ i ∈ ss.map SnykStr.text, Ascii i) :
    py_snyk_range mkVer scheme.toList (ss.map SnykStr.text)
      = (match constraintsOf (mkVer vc) (snykAst ss) with
         | .error e => .error e
         | .ok ks => .ok (cls, ks)) := by
  rw [py_snyk_range_eq mkVer scheme (ss.map SnykStr.text) hascii]
  simp only [hs, snyk_exact_scheme mkVer scheme cls vc hs hv ss h]
  cases constraintsOf (mkVer vc) (snykAst ss) <;> rfl

/-- the deb part of C06, for `DebianVersionRange.from_natives` -/
theorem py_deb_exact (mk : List Char → Except TErr (List Char)) (rs : List Rel) (h : ∀ r ∈ rs, r.WF debDict debBad)
    (hascii : ∀ s ∈ rs.map Rel.text, Ascii s) :
    deb_from_natives mk (rs.map Rel.text) = constraintsOf mk (relAst rs) := by
  rw [deb_from_natives_eq mk (rs.map Rel.text) hascii, deb_exact mk rs h]

/-- the rpm part of C06, for `RpmVersionRange.from_natives` -/
theorem py_rpm_exact (mk : List Char → Except TErr (List Char)) (rs : List Rel) (h : ∀ r ∈ rs, r.WF rpmDict rpmBad)
    (hascii : ∀ s ∈ rs.map Rel.text, Ascii s) :
    rpm_from_natives mk (rs.map Rel.text) = constraintsOf mk (relAst rs) := by
  rw [rpm_from_natives_eq mk (rs.map Rel.text) hascii, rpm_exact mk rs h]

end Univers.Gen.Text
