/-
The bracket tables of the Snyk notation (`split_req_bracket_notation`), regenerated from /repo on every run (by
asking the function what each bracket means), are the ones the advisory model (C15, C16) was written for.
-/
import Univers.Gen.SchemeTables

namespace Univers.Tables

theorem snyk_brackets :
    Gen.snykBracketFront = [("(", ">"), ("[", ">=")] ∧ Gen.snykBracketRear = [(")", "<"), ("]", "<=")] := by
  decide +kernel

end Univers.Tables
