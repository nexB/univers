/-
Agreement theorem for `VersionRange.from_string` as translated from `univers/version_range.py` on every run
(`Univers/Gen/PyTextRangeFromString.lean`): the translated function, flags included, is `fromStringFull` below, which
is assembled from the model's own pieces (`header`, `constraintBody`, `conFromString`, `conLoop` of
`Univers/Text/Vers.lean`) followed by the Layer-B steps `sorted`, `simplify`, `validate` in the order and under
the flags the code applies them; with both flags off and up to the sort it is the model's `fromString`
(`fromStringFull_plain`), which is what the theorems of C05, C13 and C16 are about.

The version classes are the parameter `mkVer`; sorting, simplifying and validating a list of constraints are
Layer B and enter as the parameters `sortT`, `simpT`, `valT`.
-/
import Univers.Gen.PyTextRangeFromString
import Univers.Text.GenTextThm

namespace Univers.Gen.Text
open Univers Univers.PyRt Univers.Text Univers.Text.Str Univers.Text.Vers Univers.Text.PyText

variable (mkVer : MkVer) (sortT simpT : List TCon → Except TErr (List TCon)) (valT : List TCon → Except TErr Bool)

def finish (cls : String) (simplify validate : Bool) (items : List TCon) : Except TErr (String × List TCon) :=
  sortT items >>= fun s =>
  (if simplify then simpT s else .ok s) >>= fun s =>
  if validate then valT s >>= fun _ => .ok (cls, s) else .ok (cls, s)

/-- `VersionRange.from_string(vers, simplify, validate)`, from the model's pieces -/
def fromStringFull (vers : List Char) (simplify validate : Bool) : Except TErr (String × List TCon) :=
  match header vers with
  | .error e => .error e
  | .ok (scheme, vc, constraints) =>
    match registryL.lookup scheme with
    | none => .error .ValueError
    | some cls =>
      match constraintBody constraints with
      | .error e => .error e
      | .ok .star =>
        match conFromString (mkVer vc) ['*'] with
        | .error e => .error e
        | .ok c => .ok (cls, [c])
      | .ok (.texts ts) =>
        match conLoop (mkVer vc) ts with
        | .error e => .error e
        | .ok items => finish sortT simpT valT cls simplify validate items

/-- the loop over the constraint texts, whatever follows it -/
theorem loop_eq (vc : String) (vers simplify validate a u1 u2 u3 u4 u5 u6 cls)
    (k : List TCon → Except TErr (String × List TCon)) (ts : List (List Char)) (acc : List TCon) :
    pyFor ts acc (vr_from_string_for1_body mkVer sortT simpT valT vers simplify validate a u1 u2 u3 u4 u5 u6 cls vc) k
      = (conLoop (mkVer vc) ts >>= fun items => k (acc ++ items)) := by
  induction ts generalizing acc with
  | nil => simp only [pyFor_nil, conLoop, bind, Except.bind, List.append_nil]
  | cons t ts ih =>
    rw [pyFor_cons, vr_from_string_for1_body, vc_from_string_eq, conLoop]
    cases conFromString (mkVer vc) t with
    | error e => rfl
    | ok c =>
      cases hs : c.isStar with
      | true => simp only [bind, Except.bind, hs, ↓reduceIte, Step.cont_error]
      | false =>
        simp only [bind, Except.bind, hs, Bool.false_eq_true, ↓reduceIte, Step.cont_next, ih]
        cases conLoop (mkVer vc) ts with
        | error e => rfl
        | ok items => simp only [List.append_assoc, List.singleton_append]

/-- the statements after the loop: sort, then simplify and validate under their flags -/
theorem after_eq_finish (vers) (simplify validate : Bool) (a u1 u2 u3 u4 u5 u6) (cls : String) (vc) (st : List TCon) :
    vr_from_string_for1_after mkVer sortT simpT valT vers simplify validate a u1 u2 u3 u4 u5 u6 cls vc st
      = finish sortT simpT valT cls simplify validate st := by
  unfold vr_from_string_for1_after finish
  cases simplify <;> cases validate <;> simp only [bind, Except.bind, Bool.false_eq_true, ↓reduceIte] <;> rfl

/-- `VersionRange.from_string`, flags included -/
theorem vr_from_string_eq (vers : List Char) (simplify validate : Bool) :
    vr_from_string mkVer sortT simpT valT vers simplify validate
      = fromStringFull mkVer sortT simpT valT vers simplify validate := by
  unfold vr_from_string fromStringFull header headerCore constraintBody
  rcases hp1 : partitionChar ':' (removeSpaces vers) with ⟨u, m1, spec⟩
  rcases hp2 : partitionChar '/' spec with ⟨sch, m2, cons⟩
  simp only [py_remove_spaces_eq, bind, Except.bind, hp1, hp2, versionClassOfE, vc_from_string_eq, loop_eq,
    after_eq_finish, Bool.not_not, Bool.not_true, Bool.or_false, List.nil_append]
  -- both sides now make the same tests in the same order
  by_cases h0 : (vers.isEmpty || (stripWs vers).isEmpty) = true
  · rw [if_pos h0, if_pos h0]
  rw [if_neg h0, if_neg h0]
  by_cases ha : (!isAsciiRepr (removeSpaces vers)) = true
  · rw [if_pos ha, if_pos ha]
  rw [if_neg ha, if_neg ha]
  by_cases hu : (lower u != ['v', 'e', 'r', 's']) = true
  · rw [if_pos hu, if_pos hu]
  rw [if_neg hu, if_neg hu]
  cases hl : List.lookup (lower sch) registryL with
  | none => rfl
  | some cls =>
    dsimp only
    cases hv : versionClassOf cls with
    | none => rfl
    | some vc =>
      simp only [hl]
      generalize stripSet ['|'] (removeSpaces cons) = body
      by_cases he : body.isEmpty = true
      · rw [if_pos he, if_pos he]
      rw [if_neg he, if_neg he]
      by_cases hst : startsWith body ['*'] = true
      · rw [if_pos hst, if_pos hst]
        by_cases hne : (body != ['*']) = true
        · rw [if_pos hne, if_pos hne]
        · rw [if_neg hne, if_neg hne]
          cases conFromString (mkVer vc) ['*'] <;> rfl
      · rw [if_neg hst, if_neg hst]
        dsimp only
        cases conLoop (mkVer vc) (splitChar '|' body) <;> rfl

theorem of_guard_ok {α : Type} {c : Prop} [Decidable c] {e : TErr} {x : Except TErr α} {v : α}
    (h : (if c then .error e else x) = .ok v) : x = .ok v := by
  split at h
  · cases h
  · exact h

theorem header_ok_lookup {vers scheme : List Char} {vc : String} {constraints : List Char}
    (h : header vers = .ok (scheme, vc, constraints)) : ∃ cls, registryL.lookup scheme = some cls := by
  unfold header headerCore at h
  rcases hp1 : partitionChar ':' (removeSpaces vers) with ⟨u, m1, spec⟩
  rcases hp2 : partitionChar '/' spec with ⟨sch, m2, cons⟩
  simp only [hp1, hp2] at h
  have h := of_guard_ok (of_guard_ok (of_guard_ok h))
  cases hl : registryL.lookup (lower sch) with
  | none => rw [hl] at h; cases h
  | some cls =>
    rw [hl] at h
    dsimp only at h
    split at h
    · cases h
    · cases h; exact ⟨cls, hl⟩

theorem fromStringFull_plain (vers : List Char) :
    fromStringFull mkVer (fun x => .ok x) simpT valT vers false false =
      (match fromString mkVer vers with
       | .error e => .error e
       | .ok (scheme, items) =>
         match registryL.lookup scheme with
         | none => .error .ValueError
         | some cls => .ok (cls, items)) := by
  unfold fromStringFull fromString fromStringItems parseConstraints
  cases hh : header vers with
  | error e => rfl
  | ok r =>
    obtain ⟨scheme, vc, constraints⟩ := r
    obtain ⟨cls, hl⟩ := header_ok_lookup hh
    simp only [hl]
    cases constraintBody constraints with
    | error e => rfl
    | ok b =>
      cases b with
      | star => cases conFromString (mkVer vc) ['*'] <;> simp [hl]
      | texts ts => cases hc : conLoop (mkVer vc) ts <;> simp [hc, hl, finish, bind, Except.bind]

end Univers.Gen.Text
