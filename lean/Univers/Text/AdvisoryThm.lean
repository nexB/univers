/-
Layer C — THEOREMS about the advisory notations and the simple relation converters
(model `Univers/Text/Advisory.lean`, spec `Univers/Text/AdvisorySpec.lean`).

(a) exactness (C15, C06): parsing a rendering gives exactly `constraintsOf mkVer e`, the first
    rejection by the version constructor included (GitHub, the Snyk forms, GitLab, Debian, RPM,
    OpenSSL).  Everything rests on `splitReq_item`: what `split_req` returns on a spelled item.
(b) the dict-order condition of `split_req` over the generated tables.
(c) `notations_agree`: GitHub = Snyk comma = Snyk space on the same expression.
(d) declared errors (C16), with the counterexamples for unknown schemes.
(e) nginx: each form of clause for any `NginxOps`, then with the Layer-A semver model on `a.b.c`.
-/
import Univers.Text.AdvisorySpec
import Univers.Text.Str
import Univers.Scheme.SemverThm

namespace Univers.Text.Advisory

open Univers Univers.Text

theorem splitOn_eq (sep : Char) (s : Str) : splitOn sep s = Text.Str.splitChar sep s := by
  induction s with
  | nil => rfl
  | cons c cs ih =>
    simp only [splitOn, Text.Str.splitChar, ih, beq_iff_eq]
    cases Text.Str.splitChar sep cs <;> rfl

theorem joinWith_eq (sep : Char) : ∀ (ts : List Str), joinWith sep ts = Text.Str.join [sep] ts
  | [] => rfl
  | [_] => rfl
  | x :: y :: ts => by rw [joinWith, Text.Str.join, joinWith_eq sep (y :: ts), List.append_assoc]; rfl

/-- `lstrip` (then `rstrip`, `strip`) stops at the first character outside the set -/
theorem dropWhile_append_stop {α : Type} {p : α → Bool} {a m : List α} (ha : ∀ c ∈ a, p c = true)
    (hm : ∀ x ∈ m.head?, p x = false) : (a ++ m).dropWhile p = m := by
  rw [List.dropWhile_append_of_pos ha]
  cases m with
  | nil => rfl
  | cons x _ => exact List.dropWhile_cons_of_neg (by simp [hm x rfl])

theorem rdropWhile_append_stop {α : Type} {p : α → Bool} {m b : List α} (hb : ∀ c ∈ b, p c = true)
    (hm : ∀ x ∈ m.getLast?, p x = false) : ((m ++ b).reverse.dropWhile p).reverse = m := by
  rw [List.reverse_append, dropWhile_append_stop (by simpa using hb) (by rwa [List.head?_reverse]),
    List.reverse_reverse]

theorem strip_core {α : Type} {p : α → Bool} {a m b : List α} (ha : ∀ c ∈ a, p c = true)
    (hb : ∀ c ∈ b, p c = true) (hne : m ≠ []) (h1 : ∀ x ∈ m.head?, p x = false)
    (h2 : ∀ x ∈ m.getLast?, p x = false) :
    (((a ++ (m ++ b)).dropWhile p).reverse.dropWhile p).reverse = m := by
  rw [dropWhile_append_stop ha (by simpa [List.head?_append, List.head?_eq_none_iff, hne] using h1)]
  exact rdropWhile_append_stop hb h2

theorem mem_removeSpaces {c : Char} {s : Str} : c ∈ removeSpaces s ↔ c ∈ s ∧ isPySpace c = false := by
  simp [removeSpaces]

theorem removeSpaces_append (a b : Str) : removeSpaces (a ++ b) = removeSpaces a ++ removeSpaces b :=
  List.filter_append ..

theorem removeSpaces_ws {s : Str} (h : allWs s = true) : removeSpaces s = [] :=
  List.filter_eq_nil_iff.mpr fun c hc => by simp [List.all_eq_true.mp h c hc]

theorem removeSpaces_clean {s : Str} (h : ∀ c ∈ s, isPySpace c = false) : removeSpaces s = s :=
  List.filter_eq_self.mpr fun c hc => by simp [h c hc]

theorem removeSpaces_idem (s : Str) : removeSpaces (removeSpaces s) = removeSpaces s :=
  removeSpaces_clean fun _ hc => (mem_removeSpaces.mp hc).2

theorem find?_congr {α : Type} {p q : α → Bool} :
    ∀ {l : List α}, (∀ x ∈ l, p x = q x) → l.find? p = l.find? q
  | [], _ => rfl
  | x :: l, h => by
    rw [List.find?_cons, List.find?_cons, h x (by simp), find?_congr fun y hy => h y (by simp [hy])]

theorem mem_cmpChars {d : Dict} {kv : Str × Option Str} (hkv : kv ∈ d) {c : Char} (hc : c ∈ kv.1) :
    c ∈ cmpChars d :=
  List.mem_flatMap.mpr ⟨kv, hkv, hc⟩

theorem mkCon_cmprText (c : Cmpr) (v : Str) : mkCon (some (cmprText c)) v = .ok (.mk c v) := by
  cases c <;> rfl

theorem buildCon_cmprText (mk : Str → Except TErr Str) (c : Cmpr) (t : Str) :
    buildCon mk (some (cmprText c)) t = (mk t).map (.mk c) := by
  unfold buildCon
  cases mk t <;> simp [mkCon_cmprText, Except.map]

/-! ### the key lemma: `split_req` on a spelled item -/

theorem safeV_cons {d : Dict} {bad : Str} {v : Str} (h : safeV d bad v = true) :
    ∃ x t, v = x :: t ∧ x ∉ cmpChars d ∧ (∀ c ∈ v, isPySpace c = false ∧ c ∉ bad) := by
  cases v with
  | nil => simp [safeV] at h
  | cons x t => exact ⟨x, t, rfl, by simpa [safeV, and_comm] using h⟩

theorem keysOk_mem {d : Dict} {bad : Str} (h : keysOk d bad = true) {kv : Str × Option Str}
    (hkv : kv ∈ d) : kv.1 ≠ [] ∧ ∀ c ∈ kv.1, isPySpace c = false ∧ c ∉ bad := by
  simpa using List.all_eq_true.mp h kv hkv

theorem removeSpaces_spelled {pre a mid b post : Str} (h1 : allWs pre = true) (h2 : allWs mid = true)
    (h3 : allWs post = true) (ha : ∀ c ∈ a, isPySpace c = false) (hb : ∀ c ∈ b, isPySpace c = false) :
    removeSpaces (pre ++ (a ++ (mid ++ (b ++ post)))) = a ++ b := by
  simp only [removeSpaces_append, removeSpaces_ws h1, removeSpaces_ws h2, removeSpaces_ws h3,
    removeSpaces_clean ha, removeSpaces_clean hb, List.nil_append, List.append_nil]

theorem Item.removeSpaces_text {d : Dict} {bad : Str} (hk : keysOk d bad = true) {i : Item}
    (hi : i.WF d bad) : removeSpaces i.text = i.tight :=
  let ⟨_, _, _, _, hvall⟩ := safeV_cons hi.2.2.2.2
  removeSpaces_spelled hi.2.1 hi.2.2.1 hi.2.2.2.1 (fun c hc => ((keysOk_mem hk hi.1).2 c hc).1)
    fun c hc => (hvall c hc).1

/-- On `left ++ item ++ right`, where `left`/`right` are made of whitespace and stripped
characters, `split_req` returns the comparator and the version of the item — provided the key is
read correctly by the dict order (`keyFine`). -/
theorem splitReq_item (d : Dict) (dflt : Option Str) (strip bad : Str)
    (hsb : ∀ c ∈ strip, c ∈ bad) (hk : keysOk d bad = true)
    (i : Item) (L R : Str) (hi : i.WF d bad)
    (hf : keyFine d i.key (some (cmprText i.c)) = true)
    (hL : ∀ c ∈ L, isPySpace c = true ∨ c ∈ strip) (hR : ∀ c ∈ R, isPySpace c = true ∨ c ∈ strip) :
    splitReq (L ++ (i.text ++ R)) d dflt strip = .ok (some (cmprText i.c), i.v) := by
  obtain ⟨x, t, hvx, hx, hvall⟩ := safeV_cons hi.2.2.2.2
  have hkall := (keysOk_mem hk hi.1).2
  have hout : ∀ {S : Str}, (∀ c ∈ S, isPySpace c = true ∨ c ∈ strip) →
      ∀ c ∈ removeSpaces S, strip.contains c = true := by
    intro S hS c hc
    obtain ⟨h1, h2⟩ := mem_removeSpaces.mp hc
    simpa [h2] using hS c h1
  have hin : ∀ c ∈ i.key ++ i.v, strip.contains c = false := by
    intro c hc
    have : c ∉ bad := (List.mem_append.mp hc).elim (fun h => (hkall c h).2) (fun h => (hvall c h).2)
    simpa using fun h => this (hsb c h)
  -- after `.strip(strip)`
  have hstrip : stripSet strip (removeSpaces (L ++ (i.text ++ R))) = i.key ++ i.v := by
    rw [removeSpaces_append, removeSpaces_append, Item.removeSpaces_text hk hi]
    exact strip_core (hout hL) (hout hR) (by simp [Item.tight, hvx])
      (fun c hc => hin c (List.mem_of_mem_head? hc)) fun c hc => hin c (List.mem_of_getLast? hc)
  -- the dict search only sees the key: the version starts with a non-comparator character
  have hfind : d.find? (fun kv => kv.1.isPrefixOf (i.key ++ i.v)) = firstMatch d i.key :=
    find?_congr fun kv hkv =>
      hvx ▸ Text.Str.startsWith_append_cons i.key t fun hc => hx (mem_cmpChars hkv hc)
  unfold splitReq
  simp only [hstrip, hfind]
  unfold keyFine at hf
  cases hfm : firstMatch d i.key with
  | none => simp [hfm] at hf
  | some kv =>
    simp only [hfm, Bool.and_eq_true, beq_iff_eq] at hf
    -- `lstrip(key found)` removes the whole key and stops at the version
    have hxn : x ∉ kv.1 := fun h => hx (mem_cmpChars (List.mem_of_find?_eq_some hfm) h)
    simp only [hf.1, lstripSet, dropWhile_append_stop (List.all_eq_true.mp hf.2)
      (show ∀ c ∈ i.v.head?, kv.1.contains c = false by simpa [hvx] using hxn)]

theorem collect_map {α β γ : Type} (f : β → Except TErr (List γ)) (g : α → β) :
    ∀ (xs : List α), collect f (xs.map g) = collect (fun x => f (g x)) xs
  | [] => rfl
  | x :: xs => by simp only [List.map_cons, collect, collect_map f g xs]

theorem collect_congr {α β : Type} {f g : α → Except TErr (List β)} :
    ∀ {xs : List α}, (∀ x ∈ xs, f x = g x) → collect f xs = collect g xs
  | [], _ => rfl
  | x :: xs, h => by
    simp only [collect, h x (by simp), collect_congr (xs := xs) fun y hy => h y (by simp [hy])]

theorem constraintsOf_append (mk : Str → Except TErr Str) :
    ∀ (a b : AST), constraintsOf mk (a ++ b) =
      (constraintsOf mk a).bind fun x => (constraintsOf mk b).map (x ++ ·)
  | [], b => by
    simp only [List.nil_append, constraintsOf]
    cases constraintsOf mk b <;> rfl
  | (c, v) :: a, b => by
    simp only [List.cons_append, constraintsOf, constraintsOf_append mk a b]
    cases mk v with
    | error e => rfl
    | ok v' => cases constraintsOf mk a <;> cases constraintsOf mk b <;> rfl

theorem collect_eq_constraintsOf {α : Type} (mk : Str → Except TErr Str)
    {F : α → Except TErr (List TCon)} (pairs : α → AST) :
    ∀ {xs : List α}, (∀ x ∈ xs, F x = constraintsOf mk (pairs x)) →
      collect F xs = constraintsOf mk (xs.flatMap pairs)
  | [], _ => rfl
  | x :: xs, h => by
    simp only [List.flatMap_cons, collect, constraintsOf_append, h x (by simp),
      collect_eq_constraintsOf mk pairs (xs := xs) fun y hy => h y (by simp [hy])]
    cases constraintsOf mk (pairs x) <;> cases constraintsOf mk (xs.flatMap pairs) <;> rfl

/-- a loop that appends one constraint per element -/
theorem collect_single_eq {α : Type} (mk : Str → Except TErr Str) {G : α → Except TErr TCon}
    (pair : α → Cmpr × Str) {xs : List α}
    (h : ∀ x ∈ xs, G x = (mk (pair x).2).map (.mk (pair x).1)) :
    collect (fun x => match G x with
      | .error e => .error e
      | .ok k => .ok [k]) xs = constraintsOf mk (xs.map pair) := by
  rw [List.map_eq_flatMap]
  refine collect_eq_constraintsOf mk _ fun x hx => ?_
  simp only [h x hx, constraintsOf]
  cases mk (pair x).2 <;> rfl

/-! ### (b) the order condition over the generated dictionaries -/

/-- the dictionaries of the classes, as the model reads them -/
def debDict : Dict := (nativeDict "DebianVersionRange").getD []
def rpmDict : Dict := (nativeDict "RpmVersionRange").getD []

theorem nativeDict_deb : nativeDict "DebianVersionRange" = some debDict :=
  (Option.getD_of_ne_none (by decide +kernel) _).symm
theorem nativeDict_rpm : nativeDict "RpmVersionRange" = some rpmDict :=
  (Option.getD_of_ne_none (by decide +kernel) _).symm

theorem split_req_order_ok_github : orderOk githubDict = true := by decide +kernel
theorem split_req_order_ok_snyk : orderOk snykDict = true := by decide +kernel

/-- (b) every per-class dictionary, rpm and pypi included since `<>` precedes `<` and `===` precedes
`==` -/
theorem split_req_order_ok :
    ∀ p ∈ Gen.nativeComparators, orderOk (ofGen p.2) = true := by decide +kernel

/-- F21 stays fixed: `<>` is found before `<` -/
theorem split_req_order_rpm_ne :
    firstMatch rpmDict ['<', '>'] = some (['<', '>'], some ['!', '=']) := by decide +kernel

theorem keysOk_github : keysOk githubDict githubBad = true := by decide +kernel
theorem keysOk_snyk : keysOk snykDict snykBad = true := by decide +kernel
theorem keysOk_deb : keysOk debDict debBad = true := by decide +kernel
theorem keysOk_rpm : keysOk rpmDict rpmBad = true := by decide +kernel

theorem keyFine_of_orderOk {d : Dict} (h : orderOk d = true) {k : Str} {v : Option Str}
    (hm : (k, v) ∈ d) : keyFine d k v = true := by
  simpa using List.filter_eq_nil_iff.mp (List.isEmpty_iff.mp h) (k, v) hm

theorem orderOk_nativeDict {cls : String} {d : Dict} (h : nativeDict cls = some d) :
    orderOk d = true := by
  obtain ⟨p, hp, rfl⟩ := Option.map_eq_some_iff.mp h
  exact split_req_order_ok (cls, p) (Str.mem_of_lookup hp)

/-! ### (a) exactness: GitHub, Debian, RPM -/

theorem not_mem_of_allWs {c : Char} {s : Str} (hs : allWs s = true) (hc : isPySpace c = false) :
    c ∉ s :=
  fun hm => by simp [List.all_eq_true.mp hs c hm] at hc

theorem Item.not_mem_text {d : Dict} {bad : Str} (hk : keysOk d bad = true) {i : Item}
    (hi : i.WF d bad) {c : Char} (hc : c ∈ bad) (h1 : c ∉ i.pre) (h2 : c ∉ i.mid) (h3 : c ∉ i.post) :
    c ∉ i.text := by
  obtain ⟨_, _, _, _, hvall⟩ := safeV_cons hi.2.2.2.2
  simp only [Item.text, List.mem_append, not_or]
  exact ⟨h1, fun h => ((keysOk_mem hk hi.1).2 c h).2 hc, h2, fun h => (hvall c h).2 hc, h3⟩

theorem Item.not_mem_text_of_not_space {d : Dict} {bad : Str} (hk : keysOk d bad = true) {i : Item}
    (hi : i.WF d bad) {c : Char} (hc : c ∈ bad) (hws : isPySpace c = false) : c ∉ i.text :=
  Item.not_mem_text hk hi hc (not_mem_of_allWs hi.2.1 hws) (not_mem_of_allWs hi.2.2.1 hws)
    (not_mem_of_allWs hi.2.2.2.1 hws)

theorem splitReq_item_alone (d : Dict) (dflt : Option Str) {bad : Str} (hk : keysOk d bad = true)
    {i : Item} (hi : i.WF d bad) (hf : keyFine d i.key (some (cmprText i.c)) = true) :
    splitReq i.text d dflt [] = .ok (some (cmprText i.c), i.v) := by
  simpa using splitReq_item d dflt [] bad (by simp) hk i [] [] hi hf (by simp) (by simp)

theorem relConstraint_item (mk : Str → Except TErr Str) (d : Dict) (strip : Str)
    (hk : keysOk d strip = true) (r : Rel) (hr : r.WF d strip)
    (hf : keyFine d r.item.key (some (cmprText r.item.c)) = true) :
    relConstraint mk d strip r.text = (mk r.item.v).map (.mk r.item.c) := by
  obtain ⟨hi, hL, hR⟩ := hr
  unfold relConstraint Rel.text
  rw [splitReq_item d none strip strip (fun _ h => h) hk r.item r.left r.right hi hf
    (fun c hc => by simpa using List.all_eq_true.mp hL c hc)
    (fun c hc => by simpa using List.all_eq_true.mp hR c hc)]
  simp only [buildCon_cmprText]

theorem githubConstraint_item (mk : Str → Except TErr Str) (i : Item)
    (hi : i.WF githubDict githubBad) :
    githubConstraint mk i.text = (mk i.v).map (.mk i.c) := by
  unfold githubConstraint
  rw [splitReq_item_alone _ _ keysOk_github hi (keyFine_of_orderOk split_req_order_ok_github hi.1)]
  simp only [buildCon_cmprText]

/-- (a) GitHub: a rendering of `e` — any spelling of each comparator, optional whitespace, comma
joined, one string or several — converts to exactly the constraints `e` states. -/
theorem github_exact (mk : Str → Except TErr Str) (gs : List (List Item))
    (h : GroupsWF githubDict githubBad gs) :
    githubItems mk (renderGithub gs) = constraintsOf mk (astOf gs) := by
  unfold githubItems renderGithub astOf
  rw [collect_map, List.map_flatten, ← List.flatMap_def]
  refine collect_eq_constraintsOf mk _ fun g hg => ?_
  obtain ⟨hne, hg⟩ := h g hg
  -- the commas of a string are those between its items
  rw [splitOn_eq, joinWith_eq, Text.Str.splitChar_join (by simpa using hne) (by
    simpa using fun i hi => Item.not_mem_text_of_not_space keysOk_github (hg i hi)
      (List.mem_singleton_self _) (by decide)), collect_map]
  exact collect_single_eq mk Item.pair fun i hi => githubConstraint_item mk i (hg i hi)

/-- the same through the entry point, for a registered scheme with version class `vc` -/
theorem github_exact_scheme (mkVerOf : String → Str → Except TErr Str) (scheme cls vc : String)
    (hs : rangeClassOf scheme = some cls) (hv : versionClassOf cls = some vc)
    (gs : List (List Item)) (h : GroupsWF githubDict githubBad gs) :
    fromGithub mkVerOf scheme (renderGithub gs) = constraintsOf (mkVerOf vc) (astOf gs) := by
  unfold fromGithub verOfScheme
  simp only [hs, hv]
  exact github_exact _ gs h

theorem relNatives_exact (mk : Str → Except TErr Str) {cls : String} {d : Dict} (strip : Str)
    (hd : nativeDict cls = some d) (hk : keysOk d strip = true) (rs : List Rel)
    (h : ∀ r ∈ rs, r.WF d strip) :
    relNatives mk cls strip (rs.map Rel.text) = constraintsOf mk (relAst rs) := by
  unfold relNatives relAst
  rw [collect_map]
  simp only [hd]
  exact collect_single_eq mk (fun r => r.item.pair) fun r hr =>
    relConstraint_item mk d strip hk r (h r hr)
      (keyFine_of_orderOk (orderOk_nativeDict hd) (h r hr).1.1)

/-- (a) Debian: every relation `(>= 1.0)`, `<< 2`, … of a list (C06 for `deb`) -/
theorem deb_exact (mk : Str → Except TErr Str) (rs : List Rel) (h : ∀ r ∈ rs, r.WF debDict debBad) :
    debNatives mk (rs.map Rel.text) = constraintsOf mk (relAst rs) :=
  relNatives_exact mk debBad nativeDict_deb keysOk_deb rs h

/-- (a) RPM (C06 for `rpm`): every relation `>= 1.0`, `<> 1.0`, `== 1,` … of a list -/
theorem rpm_exact (mk : Str → Except TErr Str) (rs : List Rel) (h : ∀ r ∈ rs, r.WF rpmDict rpmBad) :
    rpmNatives mk (rs.map Rel.text) = constraintsOf mk (relAst rs) :=
  relNatives_exact mk rpmBad nativeDict_rpm keysOk_rpm rs h

/-- the test vectors below are evaluated by the kernel -/
local instance {ε α : Type} [DecidableEq ε] [DecidableEq α] : DecidableEq (Except ε α)
  | .ok a, .ok b => if h : a = b then isTrue (h ▸ rfl) else isFalse fun e => h (Except.ok.inj e)
  | .error a, .error b =>
    if h : a = b then isTrue (h ▸ rfl) else isFalse fun e => h (Except.error.inj e)
  | .ok _, .error _ => isFalse nofun
  | .error _, .ok _ => isFalse nofun

local instance {V : Type} [DecidableEq V] : DecidableEq (Con V)
  | .star, .star => isTrue rfl
  | .mk c v, .mk c' v' =>
    if h : c = c' ∧ v = v' then isTrue (h.1 ▸ h.2 ▸ rfl) else isFalse fun e => h (Con.mk.inj e)
  | .star, .mk .. => isFalse nofun
  | .mk .., .star => isFalse nofun

instance (d : Dict) (strip : Str) (r : Rel) : Decidable (r.WF d strip) := by
  unfold Rel.WF; infer_instance

/-- F21: the `<>` spelling of `!= 1.0` is now read as stated -/
theorem rpm_exact_ne_example :
    let r : Rel := ⟨⟨.ne, ['1', '.', '0'], ['<', '>'], [], [' '], []⟩, [], []⟩
    r.WF rpmDict rpmBad ∧ rpmNatives .ok [r.text] = .ok [.mk .ne ['1', '.', '0']] := by
  decide +kernel

/-! ### Snyk -/

def isBracket (c : Char) : Bool := c == '[' || c == ']' || c == '(' || c == ')'

theorem not_space_of_bracket {c : Char} (h : isBracket c = true) : isPySpace c = false := by
  simp only [isBracket, Bool.or_eq_true, beq_iff_eq] at h
  rcases h with ((rfl | rfl) | rfl) | rfl <;> rfl

theorem hasBracket_removeSpaces (t : Str) : hasBracket (removeSpaces t) = hasBracket t := by
  show (t.filter _).any isBracket = t.any isBracket
  rw [List.any_filter]
  refine List.any_congr rfl fun c => ?_
  cases h : isBracket c with
  | false => simp
  | true => simp [not_space_of_bracket h]

theorem snykConstraint_removeSpaces (mk : Str → Except TErr Str) (t : Str) :
    snykConstraint mk (removeSpaces t) = snykConstraint mk t := by
  unfold snykConstraint splitReq splitReqBracket
  rw [hasBracket_removeSpaces, removeSpaces_idem]

theorem stripWs_clean {s : Str} (h : ∀ c ∈ s, isPySpace c = false) : stripWs s = s := by
  unfold stripWs
  rw [show s.dropWhile isPySpace = s from
    dropWhile_append_stop (a := []) (by simp) fun x hx => h x (List.mem_of_mem_head? hx)]
  simpa using rdropWhile_append_stop (b := []) (by simp) fun x hx => h x (List.mem_of_getLast? hx)

theorem cmprText_ne_nil (c : Cmpr) : (cmprText c).isEmpty = false := by cases c <;> rfl

/-- the part of the loop body after the split -/
def snykTail (mk : Str → Except TErr Str) (cv : Option Str × Str) : Except TErr (List TCon) :=
  if (match cv.1 with | some t => !t.isEmpty | none => false) && !cv.2.isEmpty then
    match buildCon mk cv.1 cv.2 with
    | .error e => .error e
    | .ok k => .ok [k]
  else .ok []

theorem snykConstraint_eq (mk : Str → Except TErr Str) (t : Str) :
    snykConstraint mk t =
      match (if hasBracket t then splitReqBracket t else splitReq t snykDict none []) with
      | .error e => .error e
      | .ok cv => snykTail mk cv := by
  unfold snykConstraint snykTail
  cases (if hasBracket t then splitReqBracket t else splitReq t snykDict none []) <;> rfl

theorem snykTail_cmpr (mk : Str → Except TErr Str) (c : Cmpr) (x : Char) (t : Str) :
    snykTail mk (some (cmprText c), x :: t) = constraintsOf mk [(c, x :: t)] := by
  unfold snykTail
  simp only [cmprText_ne_nil, Bool.not_false, List.isEmpty_cons, Bool.and_self, ↓reduceIte,
    buildCon_cmprText, constraintsOf]
  cases mk (x :: t) <;> rfl

theorem snykTail_empty (mk : Str → Except TErr Str) (c : Option Str) :
    snykTail mk (c, []) = .ok [] := by
  simp [snykTail]

theorem safeV_snyk {v : Str} (hv : safeV snykDict snykBad v = true) :
    ∀ c ∈ v, isPySpace c = false ∧ isBracket c = false ∧ c ≠ ',' := by
  obtain ⟨_, _, _, _, hall⟩ := safeV_cons hv
  intro c hc
  have := (hall c hc).2
  simp only [snykBad, List.mem_cons, List.not_mem_nil, or_false, not_or] at this
  exact ⟨(hall c hc).1, by simp [isBracket, this], this.1⟩

theorem snykConstraint_item (mk : Str → Except TErr Str) (i : Item) (hi : i.WF snykDict snykBad) :
    snykConstraint mk i.text = constraintsOf mk [i.pair] := by
  have hb : hasBracket i.text = false := List.any_eq_false.mpr fun c hc hcb =>
    Item.not_mem_text_of_not_space keysOk_snyk hi
      (List.mem_cons_of_mem _ (by simpa [isBracket, or_assoc] using hcb)) (not_space_of_bracket hcb) hc
  obtain ⟨x, t, hvx, _⟩ := safeV_cons hi.2.2.2.2
  rw [snykConstraint_eq]
  simp only [hb, Bool.false_eq_true, ↓reduceIte, Item.pair, hvx, snykTail_cmpr,
    splitReq_item_alone _ _ keysOk_snyk hi (keyFine_of_orderOk split_req_order_ok_snyk hi.1)]

/-- `[v` and `(v` -/
theorem snykConstraint_lower (mk : Str → Except TErr Str) (closed : Bool) (v : Str)
    (hv : safeV snykDict snykBad v = true) :
    snykConstraint mk ((if closed then '[' else '(') :: v) =
      constraintsOf mk [(if closed then Cmpr.ge else Cmpr.gt, v)] := by
  have hall := safeV_snyk hv
  obtain ⟨x, t, rfl, _⟩ := safeV_cons hv
  have hx : ∀ b, isBracket b = true → x ≠ b := fun b hb e => by
    rw [← e, (hall x (by simp)).2.1] at hb; cases hb
  have hclean : ∀ c ∈ (if closed then '[' else '(') :: x :: t, isPySpace c = false :=
    List.forall_mem_cons.mpr ⟨by cases closed <;> rfl, fun c hc => (hall c hc).1⟩
  rw [snykConstraint_eq, splitReqBracket, removeSpaces_clean hclean, stripWs_clean hclean]
  cases closed
  · simp [hasBracket, lstripSet, hx '(' rfl]
    exact snykTail_cmpr mk .gt x t
  · simp [hasBracket, lstripSet, hx '[' rfl]
    exact snykTail_cmpr mk .ge x t

theorem isSuffixOf_snoc (a b : Char) (l : Str) : [a].isSuffixOf (l ++ [b]) = (a == b) := by
  simp [List.isSuffixOf, List.isPrefixOf]

/-- `v]` and `v)` -/
theorem snykConstraint_upper (mk : Str → Except TErr Str) (closed : Bool) (v : Str)
    (hv : safeV snykDict snykBad v = true) :
    snykConstraint mk (v ++ [if closed then ']' else ')']) =
      constraintsOf mk [(if closed then Cmpr.le else Cmpr.lt, v)] := by
  have hall := safeV_snyk hv
  obtain ⟨x, t, hvx, _⟩ := safeV_cons hv
  have hx : ∀ b, isBracket b = true → ∀ z ∈ v, z ≠ b := fun b hb z hz e => by
    rw [← e, (hall z hz).2.1] at hb; cases hb
  have hclean : ∀ c ∈ v ++ [if closed then ']' else ')'], isPySpace c = false :=
    List.forall_mem_append.mpr ⟨fun c hc => (hall c hc).1, fun c hc => by
      rw [List.mem_singleton.mp hc]; cases closed <;> rfl⟩
  -- `rstrip` of the bracket stops at the version
  have hr : ∀ b, isBracket b = true → rstripSet [b] (v ++ [b]) = v := fun b hb =>
    rdropWhile_append_stop (by simp) fun z hz => by simpa using hx b hb z (List.mem_of_getLast? hz)
  rw [snykConstraint_eq, splitReqBracket, removeSpaces_clean hclean, stripWs_clean hclean]
  have hpre : ∀ b, isBracket b = true → ∀ s, [b].isPrefixOf (v ++ s) = false := fun b hb s => by
    rw [hvx, List.cons_append, List.isPrefixOf,
      beq_eq_false_iff_ne.mpr (hx b hb x (by simp [hvx])).symm, Bool.false_and]
  have hbr : hasBracket (v ++ [if closed then ']' else ')']) = true := by
    cases closed <;> simp [hasBracket]
  simp only [hbr, ↓reduceIte, hpre '(' rfl, hpre '[' rfl, Bool.false_eq_true, isSuffixOf_snoc]
  cases closed
  · simp only [Bool.false_eq_true, ↓reduceIte, beq_self_eq_true, hr ')' rfl]
    exact hvx ▸ snykTail_cmpr mk .lt x t
  · simp only [↓reduceIte, beq_self_eq_true, hr ']' rfl, show (')' == ']') = false from rfl,
      Bool.false_eq_true]
    exact hvx ▸ snykTail_cmpr mk .le x t

theorem snykConstraint_void (mk : Str → Except TErr Str) (b : Char)
    (hb : b = '(' ∨ b = '[' ∨ b = ')' ∨ b = ']') : snykConstraint mk [b] = .ok [] := by
  rcases hb with rfl | rfl | rfl | rfl <;> rfl

theorem Piece.removeSpaces_text {p : Piece} (hp : p.WF) : removeSpaces p.text = p.tight := by
  have hv : ∀ {v}, safeV snykDict snykBad v = true → ∀ c ∈ v, isPySpace c = false :=
    fun hv c hc => (safeV_snyk hv c hc).1
  have hb : ∀ {b}, isBracket b = true → ∀ c ∈ [b], isPySpace c = false := fun hb c hc =>
    List.mem_singleton.mp hc ▸ not_space_of_bracket hb
  cases p with
  | cmp i => exact Item.removeSpaces_text keysOk_snyk hp
  | lower closed pre mid v post =>
    exact removeSpaces_spelled (a := [_]) hp.1 hp.2.1 hp.2.2.1 (hb (by cases closed <;> rfl))
      (hv hp.2.2.2)
  | upper closed pre v mid post =>
    exact removeSpaces_spelled (b := [_]) hp.1 hp.2.1 hp.2.2.1 (hv hp.2.2.2)
      (hb (by cases closed <;> rfl))
  | void b pre post =>
    exact removeSpaces_spelled (a := [b]) (mid := []) (b := []) hp.2.1 rfl hp.2.2
      (hb (by rcases hp.1 with rfl | rfl | rfl | rfl <;> rfl)) nofun

theorem snykConstraint_tight (mk : Str → Except TErr Str) {p : Piece} (hp : p.WF) :
    snykConstraint mk p.tight = constraintsOf mk p.pairs := by
  cases p with
  | cmp i =>
    rw [Piece.tight, ← Item.removeSpaces_text keysOk_snyk hp, snykConstraint_removeSpaces]
    exact snykConstraint_item mk i hp
  | lower closed pre mid v post => exact snykConstraint_lower mk closed v hp.2.2.2
  | upper closed pre v mid post => exact snykConstraint_upper mk closed v hp.2.2.2
  | void b pre post => exact snykConstraint_void mk b hp.1

theorem snykConstraint_piece (mk : Str → Except TErr Str) {p : Piece} (hp : p.WF) :
    snykConstraint mk p.text = constraintsOf mk p.pairs := by
  rw [← snykConstraint_removeSpaces, Piece.removeSpaces_text hp, snykConstraint_tight mk hp]

theorem Piece.tight_clean {p : Piece} (hp : p.WF) :
    p.tight ≠ [] ∧ ∀ c ∈ p.tight, isPySpace c = false ∧ c ≠ ',' := by
  have hv : ∀ {v}, safeV snykDict snykBad v = true → ',' ∉ v := fun hv h =>
    (safeV_snyk hv _ h).2.2 rfl
  refine ⟨?_, fun c hc => ⟨(mem_removeSpaces.mp (Piece.removeSpaces_text hp ▸ hc)).2, ?_⟩⟩
  · cases p with
    | cmp i => simpa [Piece.tight, Item.tight] using fun h => absurd h (keysOk_mem keysOk_snyk hp.1).1
    | _ => simp [Piece.tight]
  · rintro rfl
    cases p with
    | cmp i =>
      exact (List.mem_append.mp hc).elim
        (fun h => ((keysOk_mem keysOk_snyk hp.1).2 _ h).2 (by simp [snykBad])) (hv hp.2.2.2.2)
    | lower closed pre mid v post =>
      exact hv hp.2.2.2 (by cases closed <;> simpa [Piece.tight] using hc)
    | upper closed pre v mid post =>
      exact hv hp.2.2.2 (by cases closed <;> simpa [Piece.tight] using hc)
    | void b pre post => rcases hp.1 with rfl | rfl | rfl | rfl <;> simp [Piece.tight] at hc

theorem Piece.no_comma_text {p : Piece} (hp : p.WF) : ',' ∉ p.text := fun h =>
  ((Piece.tight_clean hp).2 _
    (Piece.removeSpaces_text hp ▸ mem_removeSpaces.mpr ⟨h, by decide⟩)).2 rfl

theorem splitChar_filter (sep : Char) (p : Char → Bool) (hp : p sep = true) : ∀ (s : Str),
    (Text.Str.splitChar sep s).map (List.filter p) = Text.Str.splitChar sep (s.filter p)
  | [] => rfl
  | c :: cs => by
    obtain ⟨h, t, hs, hc⟩ := Text.Str.splitChar_cons sep c cs
    have ih := splitChar_filter sep p hp cs
    rw [hs, List.map_cons] at ih
    rw [hc]
    by_cases hcs : c = sep
    · rw [if_pos hcs, hcs, List.filter_cons_of_pos hp, Text.Str.splitChar, if_pos rfl, ← ih]; rfl
    · rw [if_neg hcs, List.map_cons, List.filter_cons, List.filter_cons]
      split
      · rw [Text.Str.splitChar, if_neg hcs, ← ih]
      · exact ih

theorem filter_dropWhile {α : Type} (p q : α → Bool) (h : ∀ x, q x = true → p x = false) :
    ∀ (l : List α), (l.dropWhile q).filter p = l.filter p
  | [] => rfl
  | x :: l => by
    by_cases hq : q x = true
    · simp [hq, h x hq, filter_dropWhile p q h l]
    · simp [hq]

theorem removeSpaces_stripWs (s : Str) : removeSpaces (stripWs s) = removeSpaces s := by
  unfold removeSpaces stripWs
  have h : ∀ x, isPySpace x = true → (!isPySpace x) = false := by intro x hx; simp [hx]
  rw [List.filter_reverse, filter_dropWhile _ _ h, List.filter_reverse, List.reverse_reverse,
    filter_dropWhile _ _ h]

theorem removeSpaces_nospace (s : Str) :
    removeSpaces (s.filter (fun c => c != ' ')) = removeSpaces s := by
  unfold removeSpaces
  rw [List.filter_filter]
  exact List.filter_congr fun c _ => by by_cases h : c = ' ' <;> simp [h, isPySpace]

/-- the comma branch of `snykSplit` -/
theorem collect_snyk_comma (mk : Str → Except TErr Str) (s : Str) :
    collect (snykConstraint mk) (splitOn ',' ((stripWs s).filter (fun c => c != ' '))) =
      collect (snykConstraint mk) (splitOn ',' s) := by
  -- a constraint only depends on its text without whitespace, and removing whitespace commutes
  -- with splitting at the commas
  have key : ∀ (s : Str), collect (snykConstraint mk) (splitOn ',' s) =
      collect (snykConstraint mk) (splitOn ',' (removeSpaces s)) := fun s => by
    rw [removeSpaces, splitOn_eq, splitOn_eq, ← splitChar_filter ',' _ rfl, collect_map]
    exact collect_congr fun x _ => (snykConstraint_removeSpaces mk x).symm
  rw [key, key s, removeSpaces_nospace, removeSpaces_stripWs]

theorem snyk_comma_string (mk : Str → Except TErr Str) (ps : List Piece)
    (hlen : 2 ≤ ps.length) (hp : ∀ p ∈ ps, p.WF) :
    collect (snykConstraint mk) (snykSplit (renderSnykComma ps)) =
      constraintsOf mk (ps.flatMap Piece.pairs) := by
  have hcomma : (renderSnykComma ps).contains ',' = true := by
    match ps, hlen with
    | a :: b :: r, _ => simp [renderSnykComma, joinWith]
  unfold snykSplit
  simp only [hcomma, ↓reduceIte]
  rw [collect_snyk_comma, renderSnykComma, splitOn_eq, joinWith_eq, Text.Str.splitChar_join
    (by simpa using fun h => by simp [h] at hlen)
    (by simpa using fun p hpm => Piece.no_comma_text (hp p hpm)), collect_map]
  exact collect_eq_constraintsOf mk _ fun p hpm => snykConstraint_piece mk (hp p hpm)

theorem join_ends {p : Char → Bool} (sep : Str) {ts : List Str} (hne : ts ≠ [])
    (h : ∀ t ∈ ts, t ≠ [] ∧ ∀ c ∈ t, p c = false) :
    Text.Str.join sep ts ≠ [] ∧ (∀ x ∈ (Text.Str.join sep ts).head?, p x = false) ∧
      ∀ x ∈ (Text.Str.join sep ts).getLast?, p x = false := by
  obtain ⟨init, y, e, t, ht, hy⟩ := Text.Str.join_eq_snoc (sep := sep) hne fun t ht => (h t ht).1
  refine ⟨by simp [e], ?_, by simpa [e] using (h t ht).2 y hy⟩
  obtain ⟨t0, ts, rfl⟩ := List.exists_cons_of_ne_nil hne
  obtain ⟨x, xs, hx⟩ := List.exists_cons_of_ne_nil (h t0 (by simp)).1
  obtain ⟨rest, e'⟩ := Text.Str.join_cons_cons sep x xs ts
  simpa [hx, e'] using (h t0 (by simp)).2 x (by simp [hx])

theorem snyk_space_string (mk : Str → Except TErr Str) (lead trail : Str) (ps : List Piece)
    (hne : ps ≠ []) (hl : allWs lead = true) (ht : allWs trail = true) (hp : ∀ p ∈ ps, p.WF) :
    collect (snykConstraint mk) (snykSplit (renderSnykSpace lead trail ps)) =
      constraintsOf mk (ps.flatMap Piece.pairs) := by
  have hclean : ∀ t ∈ ps.map Piece.tight, t ≠ [] ∧ ∀ c ∈ t, isPySpace c = false ∧ c ≠ ',' :=
    List.forall_mem_map.mpr fun p hpm => Piece.tight_clean (hp p hpm)
  have hne' : ps.map Piece.tight ≠ [] := by simpa using hne
  rw [renderSnykSpace, joinWith_eq]
  -- no comma: the other branch of `snykSplit`
  have hnc : ',' ∉ lead ++ (Text.Str.join [' '] (ps.map Piece.tight) ++ trail) := by
    simp only [List.mem_append, not_or]
    exact ⟨not_mem_of_allWs hl (by decide), fun h => (Text.Str.mem_join h).elim (by decide)
      fun ⟨t, ht, hc⟩ => ((hclean t ht).2 _ hc).2 rfl, not_mem_of_allWs ht (by decide)⟩
  -- `strip()` leaves the pieces joined by single spaces
  obtain ⟨e0, e1, e2⟩ := join_ends (p := isPySpace) [' '] hne'
    fun t ht => ⟨(hclean t ht).1, fun c hc => ((hclean t ht).2 c hc).1⟩
  rw [snykSplit, if_neg (mt List.contains_iff_mem.mp hnc), show stripWs _ = _ from
    strip_core (List.all_eq_true.mp hl) (List.all_eq_true.mp ht) e0 e1 e2, splitOn_eq,
    Text.Str.splitChar_join hne' fun t ht hm => absurd ((hclean t ht).2 _ hm).1 (by decide),
    collect_map]
  exact collect_eq_constraintsOf mk _ fun p hpm => snykConstraint_tight mk (hp p hpm)

/-- (a) Snyk: a list of strings, each in the comma form (comparators and/or brackets, at least
two pieces) or in the space form, converts to exactly the constraints stated. -/
theorem snyk_exact (mk : Str → Except TErr Str) (ss : List SnykStr) (h : ∀ s ∈ ss, s.WF) :
    snykItems mk (ss.map SnykStr.text) = constraintsOf mk (snykAst ss) := by
  unfold snykItems snykAst
  rw [collect_map, List.flatMap_assoc]
  refine collect_eq_constraintsOf mk _ fun s hs => ?_
  cases s with
  | comma ps => exact snyk_comma_string mk ps (h _ hs).1 (h _ hs).2
  | space lead trail ps =>
    obtain ⟨h1, h2, h3, h4⟩ := h _ hs
    exact snyk_space_string mk lead trail ps h1 h2 h3 h4

theorem snyk_exact_scheme (mkVerOf : String → Str → Except TErr Str) (scheme cls vc : String)
    (hs : rangeClassOf scheme = some cls) (hv : versionClassOf cls = some vc)
    (ss : List SnykStr) (h : ∀ s ∈ ss, s.WF) :
    fromSnyk mkVerOf scheme (ss.map SnykStr.text) = constraintsOf (mkVerOf vc) (snykAst ss) := by
  unfold fromSnyk verOfScheme
  simp only [hs, hv]
  exact snyk_exact _ ss h

/-! ### (c) the notations agree -/

theorem github_sub_snyk : ∀ kv ∈ githubDict, kv ∈ snykDict := by decide +kernel
theorem snykChars_sub_github : ∀ c ∈ cmpChars snykDict, c ∈ cmpChars githubDict := by decide +kernel

theorem Item.WF_mono {d d' : Dict} {bad bad' : Str} (hd : ∀ kv ∈ d, kv ∈ d')
    (hc : ∀ c ∈ cmpChars d', c ∈ cmpChars d) (hb : ∀ c ∈ bad', c ∈ bad) {i : Item}
    (h : i.WF d bad) : i.WF d' bad' := by
  obtain ⟨h1, h2, h3, h4, hv⟩ := h
  refine ⟨hd _ h1, h2, h3, h4, ?_⟩
  obtain ⟨x, t, hvx, hx, hall⟩ := safeV_cons hv
  rw [hvx] at hall ⊢
  simp only [safeV, Bool.and_eq_true, Bool.not_eq_true', List.all_eq_true, List.contains_eq_mem,
    decide_eq_false_iff_not]
  exact ⟨fun c hc => ⟨(hall c hc).1, fun h => (hall c hc).2 (hb c h)⟩, fun h => hx (hc x h)⟩

theorem snykAst_cmp (S : List Piece → SnykStr) (hS : ∀ ps, (S ps).pieces = ps)
    (gs : List (List Item)) : snykAst (gs.map fun g => S (g.map Piece.cmp)) = astOf gs := by
  simp only [snykAst, astOf, List.flatMap_map, hS, List.flatMap_assoc, Piece.pairs,
    ← List.map_eq_flatMap, List.map_flatten, ← List.flatMap_def]

/-- (c) the same expression written in the GitHub notation, in the Snyk comma notation and in the
Snyk space notation gives the same constraint list — the one the expression states.
(Spellings: the keys of the GitHub dictionary, which the Snyk dictionary shares; versions safe
for both notations; at least two pairs per string so that the comma form has a comma.) -/
theorem notations_agree (mk : Str → Except TErr Str) (gs : List (List Item))
    (h : ∀ g ∈ gs, 2 ≤ g.length ∧ ∀ i ∈ g, i.WF githubDict snykBad) :
    githubItems mk (renderGithub gs) = constraintsOf mk (astOf gs) ∧
    snykItems mk (gs.map (fun g => renderSnykComma (g.map Piece.cmp))) = constraintsOf mk (astOf gs) ∧
    snykItems mk (gs.map (fun g => renderSnykSpace [] [] (g.map Piece.cmp))) =
      constraintsOf mk (astOf gs) := by
  have hne : ∀ g ∈ gs, g ≠ [] := fun g hg e => by simpa [e] using (h g hg).1
  -- either Snyk form
  have snyk : ∀ (S : List Piece → SnykStr), (∀ ps, (S ps).pieces = ps) →
      (∀ g ∈ gs, (∀ p ∈ g.map Piece.cmp, p.WF) → (S (g.map Piece.cmp)).WF) →
      snykItems mk (gs.map fun g => (S (g.map Piece.cmp)).text) = constraintsOf mk (astOf gs) := by
    intro S hS hWF
    rw [← snykAst_cmp S hS, ← snyk_exact mk _ (List.forall_mem_map.mpr fun g hg => hWF g hg
      (List.forall_mem_map.mpr fun i hi =>
        Item.WF_mono github_sub_snyk snykChars_sub_github (fun _ h => h) ((h g hg).2 i hi))),
      List.map_map]
    rfl
  exact ⟨github_exact mk gs fun g hg => ⟨hne g hg, fun i hi =>
      Item.WF_mono (fun _ h => h) (fun _ h => h) (by decide) ((h g hg).2 i hi)⟩,
    snyk .comma (fun _ => rfl) fun g hg hp => ⟨by simpa using (h g hg).1, hp⟩,
    snyk (.space [] []) (fun _ => rfl) fun g hg hp => ⟨by simpa using hne g hg, rfl, rfl, hp⟩⟩

/-! ### GitLab -/

theorem splitPipes_ne_nil : ∀ (s : Str), splitPipes s ≠ []
  | [] => by simp [splitPipes]
  | c :: rest => by
    unfold splitPipes
    split
    · simp
    · simp
    · split <;> simp

theorem splitPipes_cons_ne {c : Char} {rest h : Str} {tl : List Str} (hc : c ≠ '|')
    (hs : splitPipes rest = h :: tl) : splitPipes (c :: rest) = (c :: h) :: tl := by
  rw [splitPipes.eq_3 c rest (fun r e _ => hc e), hs]

/-! #### the `constraint_items` of a text, from those of what follows its first character(s) -/

theorem gitlabItems_sep {sep : Char} (hsep : sep ≠ '|') (R : Str) :
    gitlabItems sep (sep :: R) = [] :: gitlabItems sep R := by
  obtain ⟨h, tl, e⟩ := List.exists_cons_of_ne_nil (splitPipes_ne_nil R)
  simp [gitlabItems, splitPipes_cons_ne hsep e, e, splitOn]

theorem gitlabItems_pipes (sep : Char) (R : Str) :
    gitlabItems sep ('|' :: '|' :: R) = [] :: gitlabItems sep R := by
  simp [gitlabItems, splitPipes, splitOn]

theorem gitlabItems_cons {sep c : Char} {R h : Str} {tl : List Str} (h1 : c ≠ sep) (h2 : c ≠ '|')
    (hR : gitlabItems sep R = h :: tl) : gitlabItems sep (c :: R) = (c :: h) :: tl := by
  obtain ⟨hp, tlp, e⟩ := List.exists_cons_of_ne_nil (splitPipes_ne_nil R)
  obtain ⟨h0, tl0, e0, ec⟩ := Text.Str.splitChar_cons sep c hp
  simp only [gitlabItems, e, List.flatMap_cons, splitOn_eq, e0, List.cons_append,
    List.cons.injEq] at hR
  simp only [gitlabItems, splitPipes_cons_ne h2 e, List.flatMap_cons, splitOn_eq, ec, if_neg h1,
    List.cons_append, hR.1, hR.2]

theorem gitlabItems_tok {sep : Char} {R h : Str} {tl : List Str} (hR : gitlabItems sep R = h :: tl) :
    ∀ (t : Str), sep ∉ t → '|' ∉ t → gitlabItems sep (t ++ R) = (t ++ h) :: tl
  | [], _, _ => hR
  | c :: t, h1, h2 => gitlabItems_cons (fun e => h1 (by simp [e])) (fun e => h2 (by simp [e]))
      (gitlabItems_tok hR t (fun hm => h1 (by simp [hm])) fun hm => h2 (by simp [hm]))

theorem gitlabItems_seps {sep : Char} (hsep : sep ≠ '|') (R : Str) : ∀ n,
    gitlabItems sep (List.replicate n sep ++ R) = List.replicate n [] ++ gitlabItems sep R
  | 0 => rfl
  | n + 1 => by
    rw [List.replicate_succ, List.cons_append, gitlabItems_sep hsep, gitlabItems_seps hsep R n]; rfl

theorem gitlabItems_joint_head {sep : Char} (hsep : sep ≠ '|') (j : Joint) (R : Str)
    (h : j.Separates ∨ R = []) : ∃ tl, gitlabItems sep (j.text sep ++ R) = [] :: tl := by
  cases j with
  | seps n =>
    cases n with
    | zero => exact h.elim (fun h => absurd h (Nat.lt_irrefl 0)) fun h => ⟨[], by rw [h]; rfl⟩
    | succ n => exact ⟨_, gitlabItems_sep hsep _⟩
  | pipes a b =>
    cases a with
    | zero => exact ⟨_, gitlabItems_pipes sep _⟩
    | succ a => exact ⟨_, gitlabItems_sep hsep _⟩

theorem gitlabLoop_nil_item (mk : Str → Except TErr Str) (d : Dict) (st : Option Str) (rest : List Str) :
    gitlabLoop mk d st ([] :: rest) = gitlabLoop mk d st rest := by
  simp [gitlabLoop]

/-- the constraint of a version token: the comparator is the state, or is split off the token -/
def gitlabCon (mk : Str → Except TErr Str) (d : Dict) (c item : Str) : Except TErr TCon :=
  if !c.isEmpty then buildCon mk (some c) item
  else match splitReq item d (some ['=']) [] with
    | .error e => .error e
    | .ok (c', v) => buildCon mk c' v

theorem gitlabLoop_cons (mk : Str → Except TErr Str) (d : Dict) (c : Str) {item : Str}
    (rest : List Str) (hne : item ≠ []) :
    gitlabLoop mk d (some c) (item :: rest) =
      match d.lookup (c ++ item) with
      | some none => .error .ValueError
      | some (some v) => gitlabLoop mk d (some v) rest
      | none =>
        match gitlabCon mk d c item with
        | .error e => .error e
        | .ok k => match gitlabLoop mk d (some []) rest with
          | .error e => .error e
          | .ok ks => .ok (k :: ks) := by
  obtain ⟨x, t, rfl⟩ := List.exists_cons_of_ne_nil hne
  simp only [gitlabLoop, List.isEmpty_cons, Bool.false_eq_true, ↓reduceIte]
  rfl

theorem gitlabLoop_empties {mk : Str → Except TErr Str} {d : Dict} {st : Option Str}
    {items : List Str} : ∀ {es : List Str}, (∀ e ∈ es, e = []) →
      gitlabLoop mk d st (es ++ items) = gitlabLoop mk d st items
  | [], _ => rfl
  | e :: es, h => by
    rw [h e (by simp), List.cons_append, gitlabLoop_nil_item,
      gitlabLoop_empties (es := es) fun x hx => h x (by simp [hx])]

theorem gitlabLoop_joint (mk : Str → Except TErr Str) (d : Dict) (st : Option Str) {sep : Char}
    (hsep : sep ≠ '|') (j : Joint) (R : Str) :
    gitlabLoop mk d st (gitlabItems sep (j.text sep ++ R)) = gitlabLoop mk d st (gitlabItems sep R) := by
  have seps : ∀ n R, gitlabLoop mk d st (gitlabItems sep (List.replicate n sep ++ R)) =
      gitlabLoop mk d st (gitlabItems sep R) := fun n R => by
    rw [gitlabItems_seps hsep, gitlabLoop_empties fun e he => (List.mem_replicate.mp he).2]
  cases j with
  | seps n => exact seps n R
  | pipes a b =>
    rw [Joint.text, List.append_assoc, seps, List.cons_append, List.cons_append, gitlabItems_pipes,
      gitlabLoop_nil_item, seps]

def GItem.Fine (d : Dict) : GItem → Prop
  | .glued i => keyFine d i.key (some (cmprText i.c)) = true
  | .apart _ _ _ _ => True

theorem tok_of_not_bad {sep : Char} {t : Str} (hne : t ≠ [])
    (h : ∀ c ∈ t, c ∉ gitlabBad sep) : t ≠ [] ∧ sep ∉ t ∧ '|' ∉ t :=
  ⟨hne, fun hm => h _ hm (by simp [gitlabBad]), fun hm => h _ hm (by simp [gitlabBad])⟩

theorem lookup_none_of_mem {d : Dict} {t : Str} {x : Char} (hx : x ∈ t) (hn : x ∉ cmpChars d) :
    d.lookup t = none :=
  List.lookup_eq_none_iff.mpr fun kv hkv => by
    simpa using fun e : t = kv.1 => hn (mem_cmpChars hkv (e ▸ hx))

theorem gitlabLoop_item (mk : Str → Except TErr Str) (d : Dict) {sep : Char} (hsep : sep ≠ '|')
    (hk : keysOk d (gitlabBad sep) = true) {i : GItem} (hwf : i.WF d sep) (hfine : i.Fine d)
    {R : Str} {tl : List Str} (hR : gitlabItems sep R = [] :: tl) {ast : AST}
    (h : gitlabLoop mk d (some []) (gitlabItems sep R) = constraintsOf mk ast) :
    gitlabLoop mk d (some []) (gitlabItems sep (i.text sep ++ R)) =
      constraintsOf mk (i.pair :: ast) := by
  rw [hR, gitlabLoop_nil_item] at h
  cases i with
  | glued i =>
    obtain ⟨hi, h1, h2, h3⟩ := hwf
    obtain ⟨x, t, hvx, hx, _⟩ := safeV_cons hi.2.2.2.2
    have hne : i.text ≠ [] := by simp [Item.text, hvx]
    rw [GItem.text, gitlabItems_tok hR _ (Item.not_mem_text hk hi (by simp [gitlabBad]) h1 h2 h3)
        (Item.not_mem_text_of_not_space hk hi (by simp [gitlabBad]) (by decide)), List.append_nil]
    simp only [gitlabLoop_cons mk d [] tl hne, List.nil_append,
      lookup_none_of_mem (t := i.text) (x := x) (by simp [Item.text, hvx]) hx, h,
      gitlabCon, List.isEmpty_nil, Bool.not_true, Bool.false_eq_true, ↓reduceIte,
      splitReq_item_alone d _ hk hi hfine, buildCon_cmprText, GItem.pair, Item.pair, constraintsOf]
    cases mk i.v <;> rfl
  | apart c key gap v =>
    obtain ⟨hl, hv⟩ := hwf
    obtain ⟨x, t, hvx, hx, hvall⟩ := safeV_cons hv
    obtain ⟨hkne, hk1, hk2⟩ := tok_of_not_bad (keysOk_mem hk (Str.mem_of_lookup hl)).1
      fun c hc => ((keysOk_mem hk (Str.mem_of_lookup hl)).2 c hc).2
    obtain ⟨hvne, hv1, hv2⟩ := tok_of_not_bad (sep := sep) (by simp [hvx]) fun c hc => (hvall c hc).2
    rw [GItem.text, List.append_assoc, List.append_assoc,
      gitlabItems_tok (h := []) (tl := List.replicate gap [] ++ v :: tl)
        (by rw [gitlabItems_seps hsep, gitlabItems_tok hR v hv1 hv2, List.append_nil]; rfl) key hk1 hk2,
      List.append_nil]
    -- the key moves the loop to the state `c`, the empty items are skipped, `v` is a version token
    simp only [gitlabLoop_cons mk d [] _ hkne, List.nil_append, hl,
      gitlabLoop_empties fun e he => (List.mem_replicate.mp he).2,
      gitlabLoop_cons mk d (cmprText c) tl hvne,
      lookup_none_of_mem (t := cmprText c ++ v) (x := x) (by simp [hvx]) hx, h,
      gitlabCon, cmprText_ne_nil, Bool.not_false, ↓reduceIte, buildCon_cmprText, GItem.pair,
      constraintsOf]
    cases mk v <;> rfl

theorem gitlab_exact_dict (mk : Str → Except TErr Str) (d : Dict) (sep : Char) (hsep : sep ≠ '|')
    (hk : keysOk d (gitlabBad sep) = true) :
    ∀ (first : Joint) (items : List (GItem × Joint)),
      (∀ p ∈ items, p.1.WF d sep ∧ p.1.Fine d) → JointsOk items →
      gitlabLoop mk d (some []) (gitlabItems sep (renderGitlab sep first items)) =
        constraintsOf mk (gitlabAst items)
  | first, [], _, _ => by
    rw [renderGitlab, ← List.append_nil (first.text sep), gitlabLoop_joint mk d _ hsep]; rfl
  | first, (i, j) :: rest, hwf, hj => by
    -- what follows the item begins with an empty `constraint_item`
    obtain ⟨hjr, tl, hR⟩ :
        JointsOk rest ∧ ∃ tl, gitlabItems sep (renderGitlab sep j rest) = [] :: tl := by
      cases rest with
      | nil => exact ⟨trivial, by simpa [renderGitlab] using gitlabItems_joint_head hsep j [] (.inr rfl)⟩
      | cons p rest => exact ⟨hj.2, gitlabItems_joint_head hsep j _ (.inl hj.1)⟩
    rw [renderGitlab, gitlabLoop_joint mk d _ hsep]
    exact gitlabLoop_item mk d hsep hk (hwf (i, j) (by simp)).1 (hwf (i, j) (by simp)).2 hR
      (gitlab_exact_dict mk d sep hsep hk j rest (fun p hp => hwf p (by simp [hp])) hjr)

theorem gitlabLoop_all_empty (mk : Str → Except TErr Str) (d : Dict) (st : Option Str)
    (items : List Str) (h : items.all (·.isEmpty) = true) : gitlabLoop mk d st items = .ok [] := by
  simpa [gitlabLoop] using gitlabLoop_empties (mk := mk) (d := d) (st := st) (items := [])
    fun e he => by simpa using List.all_eq_true.mp h e he

/-- (a) GitLab through the entry point: for a GitLab scheme `gs` that resolves to the purl scheme
`purl`, range class `cls` (not one of the three delegated ones) with dictionary `d` and version
class `vc`, a rendering with the separator the code chooses converts to exactly the constraints
stated. -/
theorem gitlab_exact (mkVerOf : String → Str → Except TErr Str)
    (nativeOf : String → Str → Except TErr (List TCon))
    (gs purl cls vc : String) (d : Dict) (sep : Char) (first : Joint) (items : List (GItem × Joint))
    (hpurl : gitlabPurl gs = .ok purl)
    (hcls : rangeClassOf purl = some cls) (hnd : gitlabDelegated.contains cls = false)
    (hd : nativeDict cls = some d) (hvc : versionClassOf cls = some vc)
    (hsepdef : sep = gitlabSep purl (renderGitlab sep first items))
    (hk : keysOk d (gitlabBad sep) = true)
    (hwf : ∀ p ∈ items, p.1.WF d sep ∧ p.1.Fine d) (hj : JointsOk items) :
    fromGitlab mkVerOf nativeOf gs (renderGitlab sep first items) =
      constraintsOf (mkVerOf vc) (gitlabAst items) := by
  have hsep : sep ≠ '|' := by
    rw [hsepdef, gitlabSep]
    split
    · decide
    · split <;> decide
  have main := gitlab_exact_dict (mkVerOf vc) d sep hsep hk first items hwf hj
  unfold fromGitlab
  simp only [hpurl, hcls, hnd, Bool.false_eq_true, ↓reduceIte, hd, hvc, ← hsepdef]
  split
  · rename_i hall
    rw [← main, gitlabLoop_all_empty _ _ _ _ hall]
  · exact main

theorem GItem.fine_of_orderOk {d : Dict} (h : orderOk d = true) {sep : Char} {i : GItem}
    (hi : i.WF d sep) : i.Fine d := by
  cases i with
  | glued i => exact keyFine_of_orderOk h hi.1.1
  | apart _ _ _ _ => trivial

instance (d : Dict) (sep : Char) (i : GItem) : Decidable (i.WF d sep) := by
  cases i <;> (unfold GItem.WF; infer_instance)
instance (d : Dict) (i : GItem) : Decidable (i.Fine d) := by
  cases i <;> (unfold GItem.Fine; infer_instance)

/-- the hypotheses of `gitlab_exact` are satisfiable: `>=1.0 < 2.0||=3.0` for `gem` -/
example :
    let items : List (GItem × Joint) :=
      [(.glued ⟨.ge, ['1', '.', '0'], ['>', '='], [], [], []⟩, .seps 1),
       (.apart .lt ['<'] 0 ['2', '.', '0'], .pipes 0 0),
       (.glued ⟨.eq, ['3', '.', '0'], ['='], [], [], []⟩, .seps 0)]
    renderGitlab ' ' (.seps 0) items = ">=1.0 < 2.0||=3.0".toList ∧
    fromGitlab (fun _ => .ok) (fun _ _ => .ok []) "gem" (renderGitlab ' ' (.seps 0) items) =
      .ok [.mk .ge ['1', '.', '0'], .mk .lt ['2', '.', '0'], .mk .eq ['3', '.', '0']] := by
  refine ⟨by decide +kernel, ?_⟩
  exact gitlab_exact (fun _ => .ok) (fun _ _ => .ok []) "gem" "gem" "GemVersionRange" "RubygemsVersion"
    ((nativeDict "GemVersionRange").getD []) ' ' (.seps 0) _
    (by decide +kernel) (by decide +kernel) (by decide +kernel) (by decide +kernel)
    (by decide +kernel) (by decide +kernel) (by decide +kernel) (by decide +kernel)
    (by simp [JointsOk, Joint.Separates])

/-! #### the lexical structure of a GitLab expression: tokens, separators, `||` -/

inductive Atom where
  | tok (t : Str)
  | sep
  | pipes

def toks : List Atom → List Str
  | [] => []
  | .tok t :: r => t :: toks r
  | _ :: r => toks r

def headTok : List Atom → Str
  | .tok t :: _ => t
  | _ => []

def AtomsOk (sep : Char) : List Atom → Prop
  | [] => True
  | .tok t :: r => t ≠ [] ∧ (∀ c ∈ t, c ≠ sep ∧ c ≠ '|') ∧ headTok r = [] ∧
      (match r with | .tok _ :: _ => False | _ => True) ∧ AtomsOk sep r
  | _ :: r => AtomsOk sep r

def nonEmpty (s : Str) : Bool := !s.isEmpty

theorem toks_nonEmpty (sep : Char) : ∀ (as : List Atom), AtomsOk sep as → (toks as).filter nonEmpty = toks as
  | [], _ => rfl
  | .tok t :: r, h => by
    obtain ⟨x, t', rfl⟩ := List.exists_cons_of_ne_nil h.1
    simp [toks, nonEmpty, toks_nonEmpty sep r h.2.2.2.2]
  | .sep :: r, h => by simpa [toks] using toks_nonEmpty sep r h
  | .pipes :: r, h => by simpa [toks] using toks_nonEmpty sep r h

/-! ### (d) declared errors -/

/-- the result is a value or one of the errors the library declares for bad input
(`ValueError`, `InvalidVersion`, `InvalidVersionRange`) -/
def Declared {α : Type} : Except TErr α → Prop
  | .ok _ => True
  | .error e => e.declared = true

/-- the version constructor only raises declared errors (Layer A: C16 for the version class) -/
def MkDeclared (mk : Str → Except TErr Str) : Prop := ∀ t, Declared (mk t)

/-- case analysis on a computation that only raises declared errors: in `Declared (match x with
| .error e => .error e | .ok a => …)` the first case is `fun _ he => he` -/
@[elab_as_elim]
theorem Declared.elim {α : Type} {motive : Except TErr α → Prop} {x : Except TErr α}
    (hx : Declared x) (error : ∀ e, e.declared = true → motive (.error e))
    (ok : ∀ a, motive (.ok a)) : motive x := by
  cases x with
  | error e => exact error e hx
  | ok a => exact ok a

theorem Declared.ite {α : Type} {c : Prop} [Decidable c] {x y : Except TErr α} (hx : Declared x)
    (hy : Declared y) : Declared (if c then x else y) := by
  split <;> assumption

theorem mkCon_declared (c : Option Str) (v : Str) : Declared (mkCon c v) := by
  unfold mkCon
  cases c with
  | none => rfl
  | some t => simp only; split <;> trivial

theorem buildCon_declared {mk : Str → Except TErr Str} (hmk : MkDeclared mk) (c : Option Str) (t : Str) :
    Declared (buildCon mk c t) := by
  unfold buildCon
  exact (hmk t).elim (fun _ he => he) (mkCon_declared c)

theorem splitReq_declared (s : Str) (d : Dict) (dflt : Option Str) (strip : Str) :
    Declared (splitReq s d dflt strip) := by
  unfold splitReq
  simp only
  split
  · trivial
  · cases dflt with
    | none => rfl
    | some x => simp only; split <;> trivial

theorem splitReqBracket_declared (s : Str) : Declared (splitReqBracket s) :=
  .ite trivial (.ite trivial (.ite trivial (.ite trivial rfl)))

/-- `split_req`, then the constructor -/
theorem splitBuild_declared {mk : Str → Except TErr Str} (hmk : MkDeclared mk)
    {r : Except TErr (Option Str × Str)} (hr : Declared r) :
    Declared (match r with
      | .error e => .error e
      | .ok (c, v) => buildCon mk c v) :=
  hr.elim (fun _ he => he) fun cv => buildCon_declared hmk cv.1 cv.2

theorem single_declared {r : Except TErr TCon} (h : Declared r) :
    Declared (match r with | .error e => (.error e : Except TErr (List TCon)) | .ok k => .ok [k]) :=
  h.elim (fun _ he => he) fun _ => trivial

theorem collect_declared {α β : Type} (f : α → Except TErr (List β)) :
    ∀ (xs : List α), (∀ x ∈ xs, Declared (f x)) → Declared (collect f xs)
  | [], _ => trivial
  | x :: xs, h => by
    unfold collect
    exact (h x (by simp)).elim (fun _ he => he) fun _ =>
      (collect_declared f xs fun y hy => h y (by simp [hy])).elim (fun _ he => he) fun _ => trivial

theorem snykTail_declared {mk : Str → Except TErr Str} (hmk : MkDeclared mk)
    {r : Except TErr (Option Str × Str)} (hr : Declared r) :
    Declared (match r with
      | .error e => .error e
      | .ok cv => snykTail mk cv) :=
  hr.elim (fun _ he => he) fun cv => .ite (single_declared (buildCon_declared hmk cv.1 cv.2)) trivial

theorem snykConstraint_declared {mk : Str → Except TErr Str} (hmk : MkDeclared mk) (s : Str) :
    Declared (snykConstraint mk s) := by
  rw [snykConstraint_eq]
  exact snykTail_declared hmk (.ite (splitReqBracket_declared s) (splitReq_declared ..))

theorem registry_version_classes :
    ∀ p ∈ Gen.registry, (versionClassOf p.2).isSome = true := by decide +kernel

theorem verOfScheme_known (mkVerOf : String → Str → Except TErr Str) {scheme : String}
    (hs : (rangeClassOf scheme).isSome = true) :
    ∃ vc, verOfScheme mkVerOf scheme = .ok (mkVerOf vc) := by
  obtain ⟨cls, h⟩ := Option.isSome_iff_exists.mp hs
  obtain ⟨vc, hv⟩ := Option.isSome_iff_exists.mp (registry_version_classes _ (Str.mem_of_lookup h))
  exact ⟨vc, by simp only [verOfScheme, h, hv]⟩

/-- (d) GitHub: for a REGISTERED scheme every input — any list of any strings — gives a range or a
declared error, provided the version class itself only raises declared errors. -/
theorem github_declared_partial (mkVerOf : String → Str → Except TErr Str)
    (hmk : ∀ vc, MkDeclared (mkVerOf vc)) (scheme : String)
    (hs : (rangeClassOf scheme).isSome = true) (items : List Str) :
    Declared (fromGithub mkVerOf scheme items) := by
  obtain ⟨vc, h⟩ := verOfScheme_known mkVerOf hs
  unfold fromGithub
  rw [h]
  exact collect_declared _ _ fun _ _ => collect_declared _ _ fun c _ =>
    single_declared (splitBuild_declared (hmk vc) (splitReq_declared c githubDict none []))

/-- an unknown scheme escapes as the internal `KeyError` of the registry lookup (C16 finding) -/
theorem github_declared_counterexample :
    fromGithub (fun _ => .ok) "nope" [['>', '1']] = .error .KeyError ∧
      TErr.KeyError.declared = false := by decide +kernel

theorem github_unknown_scheme (mkVerOf : String → Str → Except TErr Str) (scheme : String)
    (hs : rangeClassOf scheme = none) (items : List Str) :
    fromGithub mkVerOf scheme items = .error .KeyError := by
  unfold fromGithub verOfScheme
  rw [hs]

/-- (d) Snyk: the same for the Snyk notations -/
theorem snyk_declared_partial (mkVerOf : String → Str → Except TErr Str)
    (hmk : ∀ vc, MkDeclared (mkVerOf vc)) (scheme : String)
    (hs : (rangeClassOf scheme).isSome = true) (items : List Str) :
    Declared (fromSnyk mkVerOf scheme items) := by
  obtain ⟨vc, h⟩ := verOfScheme_known mkVerOf hs
  unfold fromSnyk
  rw [h]
  exact collect_declared _ _ fun _ _ => collect_declared _ _ fun c _ =>
    snykConstraint_declared (hmk vc) c

theorem snyk_declared_counterexample :
    fromSnyk (fun _ => .ok) "nope" [['>', '1']] = .error .KeyError ∧
      TErr.KeyError.declared = false := by decide +kernel

theorem snyk_unknown_scheme (mkVerOf : String → Str → Except TErr Str) (scheme : String)
    (hs : rangeClassOf scheme = none) (items : List Str) :
    fromSnyk mkVerOf scheme items = .error .KeyError := by
  unfold fromSnyk verOfScheme
  rw [hs]

theorem relNatives_declared {mk : Str → Except TErr Str} (hmk : MkDeclared mk) {cls : String}
    {d : Dict} (hd : nativeDict cls = some d) (strip : Str) (strings : List Str) :
    Declared (relNatives mk cls strip strings) := by
  unfold relNatives
  simp only [hd]
  exact collect_declared _ _ fun s _ =>
    single_declared (splitBuild_declared hmk (splitReq_declared s d none strip))

/-- (d) `DebianVersionRange.from_native(s)`: every input gives a range or a declared error -/
theorem deb_declared {mk : Str → Except TErr Str} (hmk : MkDeclared mk) (strings : List Str) :
    Declared (debNatives mk strings) :=
  relNatives_declared hmk nativeDict_deb _ strings

/-- (d) `RpmVersionRange.from_native(s)` -/
theorem rpm_declared {mk : Str → Except TErr Str} (hmk : MkDeclared mk) (strings : List Str) :
    Declared (rpmNatives mk strings) :=
  relNatives_declared hmk nativeDict_rpm _ strings

/-- (d) `OpensslVersionRange.from_native` -/
theorem openssl_declared {mk : Str → Except TErr Str} (hmk : MkDeclared mk) (s : Str) :
    Declared (opensslNative mk s) :=
  collect_declared _ _ fun v _ => single_declared (buildCon_declared hmk _ v)

/-- the token loop, started in a `str` state, only lets declared errors escape (a `None` value
of the dictionary is reported as `ValueError`) -/
theorem gitlabLoop_declared {mk : Str → Except TErr Str} (hmk : MkDeclared mk) (d : Dict) :
    ∀ (items : List Str) (c : Str), Declared (gitlabLoop mk d (some c) items)
  | [], _ => trivial
  | item :: rest, c => by
    by_cases hne : item = []
    · rw [hne, gitlabLoop_nil_item]
      exact gitlabLoop_declared hmk d rest c
    · have hc : Declared (gitlabCon mk d c item) :=
        .ite (buildCon_declared hmk _ _) (splitBuild_declared hmk (splitReq_declared ..))
      rw [gitlabLoop_cons mk d c rest hne]
      cases d.lookup (c ++ item) with
      | some v =>
        cases v with
        | none => rfl
        | some v => exact gitlabLoop_declared hmk d rest v
      | none =>
        exact hc.elim (fun _ he => he) fun _ =>
          (gitlabLoop_declared hmk d rest []).elim (fun _ he => he) fun _ => trivial

/-- what `from_gitlab_native` needs from the class of a purl scheme -/
def gitlabClassOk (purl : String) : Bool :=
  match rangeClassOf purl with
  | none => false
  | some cls => gitlabDelegated.contains cls ||
    ((nativeDict cls).isSome && (versionClassOf cls).isSome)

theorem gitlab_classes_ok : ∀ p ∈ Gen.gitlabSchemes, gitlabClassOk p.2 = true := by decide +kernel

theorem gitlabPurl_mem {gs purl : String} (h : gitlabPurl gs = .ok purl) :
    ∃ p ∈ Gen.gitlabSchemes, p.2 = purl := by
  unfold gitlabPurl at h
  split at h
  · rename_i hc
    obtain ⟨p, hp, hp2⟩ := List.mem_map.mp (List.contains_iff_mem.mp hc)
    exact ⟨p, hp, hp2.trans (Except.ok.inj h)⟩
  · cases hl : Gen.gitlabSchemes.lookup gs with
    | none => simp [hl] at h
    | some p => exact ⟨(gs, p), Str.mem_of_lookup hl, by simpa [hl] using h⟩

/-- (d) GitLab: for every KNOWN GitLab scheme (pypi included) every text gives a range or a
declared error (the delegated `from_native` of conan / maven / nuget being assumed so). -/
theorem gitlab_declared (mkVerOf : String → Str → Except TErr Str)
    (nativeOf : String → Str → Except TErr (List TCon))
    (hmk : ∀ vc, MkDeclared (mkVerOf vc)) (hnat : ∀ p s, Declared (nativeOf p s))
    (gs purl : String) (hp : gitlabPurl gs = .ok purl) (s : Str) :
    Declared (fromGitlab mkVerOf nativeOf gs s) := by
  obtain ⟨p, hpm, rfl⟩ := gitlabPurl_mem hp
  have hok := gitlab_classes_ok p hpm
  unfold fromGitlab
  simp only [hp]
  unfold gitlabClassOk at hok
  cases hc : rangeClassOf p.2 with
  | none => simp [hc] at hok
  | some cls =>
    simp only [hc] at hok ⊢
    by_cases hdel : gitlabDelegated.contains cls = true
    · simp only [hdel, ↓reduceIte]
      exact hnat p.2 s
    · simp only [hdel, Bool.false_eq_true, ↓reduceIte, Bool.false_or, Bool.and_eq_true] at hok ⊢
      obtain ⟨d, hd⟩ := Option.isSome_iff_exists.mp hok.1
      obtain ⟨vc, hv⟩ := Option.isSome_iff_exists.mp hok.2
      split
      · trivial
      · simp only [hd, hv]
        exact gitlabLoop_declared (hmk vc) d _ []

/-- F23, F24: the former witnesses (a `TypeError`; `===1.0` read as `=1.0`) are now `ValueError`s -/
theorem gitlab_none_comparator_examples :
    fromGitlab (fun _ => .ok) (fun _ _ => .ok []) "pypi" "~=,1.0".toList = .error .ValueError ∧
    fromGitlab (fun _ => .ok) (fun _ _ => .ok []) "pypi" "==,==,1.0".toList = .error .ValueError ∧
    fromGitlab (fun _ => .ok) (fun _ _ => .ok []) "pypi" "===1.0".toList = .error .ValueError := by
  decide +kernel

/-- an unknown GitLab scheme escapes as `KeyError` (C16 finding) -/
theorem gitlab_declared_counterexample_keyerror :
    fromGitlab (fun _ => .ok) (fun _ _ => .ok []) "nope" ['>', '1'] = .error .KeyError := by
  decide +kernel

theorem gitlab_unknown_scheme (mkVerOf : String → Str → Except TErr Str)
    (nativeOf : String → Str → Except TErr (List TCon)) (gs : String) (s : Str)
    (h : gitlabPurl gs = .error .KeyError) : fromGitlab mkVerOf nativeOf gs s = .error .KeyError := by
  unfold fromGitlab
  rw [h]

/-! ### (e) nginx -/

theorem mkCon_ge (v : Str) : mkCon (some ['>', '=']) v = .ok (.mk .ge v) := mkCon_cmprText .ge v
theorem mkCon_le (v : Str) : mkCon (some ['<', '=']) v = .ok (.mk .le v) := mkCon_cmprText .le v
theorem mkCon_lt (v : Str) : mkCon (some ['<']) v = .ok (.mk .lt v) := mkCon_cmprText .lt v
theorem mkCon_eq (v : Str) : mkCon (some ['=']) v = .ok (.mk .eq v) := mkCon_cmprText .eq v

theorem partition_append (sep : Char) (b : Str) : ∀ (a : Str), sep ∉ a →
    partition sep (a ++ sep :: b) = (a, b)
  | [], _ => by simp [partition]
  | c :: a, h => by
    have hc : c ≠ sep := fun e => h (by simp [e])
    simp [partition, hc, partition_append sep b a fun hm => h (by simp [hm])]

theorem rstripSet_plus {vs : Str} (h : '+' ∉ vs) : rstripSet ['+'] (vs ++ ['+']) = vs :=
  rdropWhile_append_stop (by simp) fun z hz => by
    simpa using fun e : z = '+' => h (e ▸ List.mem_of_getLast? hz)

/-- (e) a dash range `a-b` with different ends gives `>=a` and `<=b` (both ends included) -/
theorem nginx_dash (o : NginxOps) (a b : Str) (ra rb : o.R) (hna : '-' ∉ a)
    (ha : o.make a = .ok ra) (hb : o.make b = .ok rb) (hne : o.eq ra rb = false) :
    nginxClause o (a ++ '-' :: b) = .ok [.mk .ge (o.str ra), .mk .le (o.str rb)] := by
  simp [nginxClause, partition_append '-' b a hna, ha, hb, hne, mkCon_ge, mkCon_le]

/-- (e) a dash range whose ends are EQUAL versions is that single version -/
theorem nginx_dash_equal (o : NginxOps) (a b : Str) (ra rb : o.R) (hna : '-' ∉ a)
    (ha : o.make a = .ok ra) (hb : o.make b = .ok rb) (heq : o.eq ra rb = true) :
    nginxClause o (a ++ '-' :: b) = .ok [.mk .eq (o.str ra)] := by
  simp [nginxClause, partition_append '-' b a hna, ha, hb, heq, mkCon_eq]

/-- (e) `v+` on a stable branch (even minor): from `v` up to, not including, the next minor -/
theorem nginx_plus_stable (o : NginxOps) (vs t : Str) (r r2 : o.R) (h1 : '-' ∉ vs) (h2 : '+' ∉ vs)
    (hm : o.make vs = .ok r) (hs : o.isStable r = true) (hn : o.nextMinor r = .ok t)
    (hm2 : o.make t = .ok r2) :
    nginxClause o (vs ++ ['+']) = .ok [.mk .ge (o.str r), .mk .lt (o.str r2)] := by
  simp [nginxClause, h1, rstripSet_plus h2, hm, hs, hn, hm2, mkCon_ge, mkCon_lt]

/-- (e) `v+` on the mainline branch (odd minor): everything from `v` on -/
theorem nginx_plus_mainline (o : NginxOps) (vs : Str) (r : o.R) (h1 : '-' ∉ vs) (h2 : '+' ∉ vs)
    (hm : o.make vs = .ok r) (hs : o.isStable r = false) :
    nginxClause o (vs ++ ['+']) = .ok [.mk .ge (o.str r)] := by
  simp [nginxClause, h1, rstripSet_plus h2, hm, hs, mkCon_ge]

theorem nginx_plain (o : NginxOps) (vs : Str) (r : o.R) (h1 : '-' ∉ vs) (h2 : '+' ∉ vs)
    (hm : o.make vs = .ok r) : nginxClause o vs = .ok [.mk .eq (o.str r)] := by
  simp [nginxClause, h1, h2, hm, mkCon_eq]

theorem nginx_all (o : NginxOps) : nginxNative o ['a', 'l', 'l'] = .ok [.star] := rfl

theorem nginx_clauses (o : NginxOps) (s : Str) (hclean : lower (removeSpaces s) = s)
    (hall : s ≠ ['a', 'l', 'l']) : nginxNative o s = collect (nginxClause o) (splitOn ',' s) := by
  simp [nginxNative, hclean, hall]

theorem nginxSemver_isStable (r : Semver.Raw) :
    nginxSemver.isStable r = (r.minor % 2 == 0) := rfl

/-- with the Layer-A semver model: the documented examples -/
theorem nginx_examples :
    nginxNative nginxSemver "1.5.10".toList = .ok [.mk .eq "1.5.10".toList] ∧
    nginxNative nginxSemver "0.7.52-0.8.39".toList =
      .ok [.mk .ge "0.7.52".toList, .mk .le "0.8.39".toList] ∧
    nginxNative nginxSemver "0.8.40+, 0.7.66+".toList =
      .ok [.mk .ge "0.8.40".toList, .mk .lt "0.9.0".toList, .mk .ge "0.7.66".toList] ∧
    nginxNative nginxSemver "1.5.0+, 1.4.1+".toList =
      .ok [.mk .ge "1.5.0".toList, .mk .ge "1.4.1".toList, .mk .lt "1.5.0".toList] ∧
    nginxNative nginxSemver "none".toList = .error .InvalidVersion := by
  decide +kernel

/-- (e) F22: equal ends (also when spelled differently) give ONE version -/
theorem nginx_dash_equal_examples :
    nginxNative nginxSemver "1.2.3-1.2.3".toList = .ok [.mk .eq "1.2.3".toList] ∧
    nginxNative nginxSemver "1.2-1.2.0".toList = .ok [.mk .eq "1.2.0".toList] ∧
    nginxNative nginxSemver "1.2.3-1.2.4".toList =
      .ok [.mk .ge "1.2.3".toList, .mk .le "1.2.4".toList] := by
  decide +kernel

theorem nginxClause_declared (o : NginxOps) (hmake : ∀ t, Declared (o.make t))
    (hnext : ∀ r, Declared (o.nextMinor r)) (cl : Str) : Declared (nginxClause o cl) := by
  unfold nginxClause
  simp only [mkCon_ge, mkCon_le, mkCon_lt, mkCon_eq]
  refine .ite ?_ (.ite ?_ ?_)
  · exact (hmake (partition '-' cl).1).elim (fun _ he => he) fun _ =>
      (hmake (partition '-' cl).2).elim (fun _ he => he) fun _ => .ite trivial trivial
  · refine (hmake (rstripSet ['+'] cl)).elim (fun _ he => he) fun v => .ite ?_ trivial
    simp only
    refine (hnext v).elim (fun _ he => he) fun t => ?_
    simp only
    exact (hmake t).elim (fun _ he => he) fun _ => trivial
  · exact (hmake cl).elim (fun _ he => he) fun _ => trivial

/-- (d) `NginxVersionRange.from_native`: every text gives a range or a declared error, when the
version operations only raise declared errors -/
theorem nginx_declared (o : NginxOps) (hmake : ∀ t, Declared (o.make t))
    (hnext : ∀ r, Declared (o.nextMinor r)) (s : Str) : Declared (nginxNative o s) := by
  unfold nginxNative
  simp only
  split
  · trivial
  · exact collect_declared _ _ fun cl _ => nginxClause_declared o hmake hnext cl

theorem nginxSemver_make_declared (t : Str) : Declared (nginxSemver.make t) := by
  simp only [nginxSemver]
  cases h : Semver.constructNginx t with
  | ok r => trivial
  | error e => rw [Semver.constructWith_error h]; rfl

theorem nginxSemver_next_declared (r : Semver.Raw) : Declared (nginxSemver.nextMinor r) := by
  simp only [nginxSemver]
  cases h : Semver.verNextMinor r with
  | ok r => trivial
  | error e => rw [Semver.constructWith_error h]; rfl

/-- (d) with the Layer-A semver model as `NginxVersion`: every text gives a range or
`InvalidVersion` (C06/C16 for nginx) -/
theorem nginx_declared_semver (s : Str) : Declared (nginxNative nginxSemver s) :=
  nginx_declared nginxSemver nginxSemver_make_declared nginxSemver_next_declared s

/-! #### nginx with the semver model on plain `N.N.N` versions -/

open Semver in
def relText (a b c : Nat) : Str := natStr a ++ '.' :: (natStr b ++ '.' :: natStr c)

theorem semver_str_release (a b c : Nat) : Semver.str ⟨a, b, c, [], []⟩ = relText a b c := by
  simp [Semver.str, relText]

theorem semver_construct_relText (a b c : Nat) :
    Semver.construct (relText a b c) = .ok ⟨a, b, c, [], []⟩ :=
  semver_str_release a b c ▸ Semver.str_roundtrip ⟨a, b, c, [], []⟩ ⟨nofun, nofun⟩

theorem nginxSemver_str_release (a b c : Nat) :
    nginxSemver.str (⟨a, b, c, [], []⟩ : Semver.Raw) = relText a b c :=
  semver_str_release a b c

theorem nginxSemver_make_relText (a b c : Nat) :
    nginxSemver.make (relText a b c) = .ok (⟨a, b, c, [], []⟩ : Semver.Raw) := by
  simp only [nginxSemver, Semver.constructNginx_eq, semver_construct_relText]

theorem nginxSemver_next_release (a b c : Nat) :
    nginxSemver.nextMinor (⟨a, b, c, [], []⟩ : Semver.Raw) = .ok (relText a (b + 1) 0) := by
  have : Semver.nextMinor ⟨a, b, c, [], []⟩ = ⟨a, b + 1, 0, [], []⟩ := by simp [Semver.nextMinor]
  simp only [nginxSemver, Semver.verNextMinor, this, semver_str_release, semver_construct_relText]

theorem nginxSemver_eq_release (a b c d e f : Nat) :
    nginxSemver.eq (⟨a, b, c, [], []⟩ : Semver.Raw) (⟨d, e, f, [], []⟩ : Semver.Raw) =
      decide (a = d ∧ b = e ∧ c = f) := by
  show Semver.valOps.eq _ _ = _
  simp [Semver.valOps_eq_decide]

theorem relText_chars (a b c : Nat) : ∀ x ∈ relText a b c, x.isDigit = true ∨ x = '.' := by
  have hd : ∀ n, ∀ x ∈ Semver.natStr n, x.isDigit = true ∨ x = '.' :=
    fun n x hx => .inl (Semver.natStr_digits n x hx)
  simp only [relText, List.forall_mem_append, List.forall_mem_cons]
  exact ⟨hd a, .inr trivial, hd b, .inr trivial, hd c⟩

theorem relText_no_dash (a b c : Nat) : '-' ∉ relText a b c :=
  fun hm => (relText_chars a b c _ hm).elim (by decide) (by decide)

theorem relText_no_plus (a b c : Nat) : '+' ∉ relText a b c :=
  fun hm => (relText_chars a b c _ hm).elim (by decide) (by decide)

/-- the characters of the nginx notation over numeric versions -/
def nginxChar (x : Char) : Prop := x.isDigit = true ∨ x = '.' ∨ x = '+' ∨ x = '-'

theorem relText_nginxChar (a b c : Nat) : ∀ x ∈ relText a b c, nginxChar x :=
  fun x hx => (relText_chars a b c x hx).imp_right .inl

theorem nginx_single (o : NginxOps) (s : Str) (h : ∀ x ∈ s, nginxChar x) :
    nginxNative o s = nginxClause o s := by
  -- such a character is not whitespace, not upper case, not a comma and not an `a`
  have hprop : ∀ x ∈ s, isPySpace x = false ∧ ¬ ('A' ≤ x ∧ x ≤ 'Z') ∧ x ≠ ',' ∧ x ≠ 'a' := by
    intro x hx
    rcases h x hx with h | rfl | rfl | rfl
    · obtain ⟨d, hd, rfl⟩ := digit_eq_digitChar h
      exact (by decide : ∀ d < 10, isPySpace d.digitChar = false ∧
        ¬ ('A' ≤ d.digitChar ∧ d.digitChar ≤ 'Z') ∧ d.digitChar ≠ ',' ∧ d.digitChar ≠ 'a') d hd
    all_goals exact ⟨by decide, by decide, by decide, by decide⟩
  have hclean : lower (removeSpaces s) = s := by
    rw [removeSpaces_clean fun x hx => (hprop x hx).1, lower]
    exact (List.map_congr_left fun x hx => by simp [(hprop x hx).2.1]).trans (List.map_id s)
  rw [nginx_clauses o s hclean fun e => (hprop 'a' (by simp [e])).2.2.2 rfl,
    splitOn_eq, Text.Str.splitChar_of_not_mem fun hm => (hprop ',' hm).2.2.1 rfl]
  simp only [collect]
  cases nginxClause o s <;> simp

theorem nginx_plus_stable_numeric (a b c : Nat) (hb : b % 2 = 0) :
    nginxNative nginxSemver (relText a b c ++ ['+']) =
      .ok [.mk .ge (relText a b c), .mk .lt (relText a (b + 1) 0)] := by
  rw [nginx_single _ _ (List.forall_mem_append.mpr ⟨relText_nginxChar a b c, by simp [nginxChar]⟩),
    nginx_plus_stable nginxSemver _ _ _ _ (relText_no_dash a b c)
      (relText_no_plus a b c) (nginxSemver_make_relText a b c)
      (by simp [nginxSemver_isStable, hb]) (nginxSemver_next_release a b c)
      (nginxSemver_make_relText a (b + 1) 0),
    nginxSemver_str_release, nginxSemver_str_release]

theorem nginx_plus_mainline_numeric (a b c : Nat) (hb : b % 2 = 1) :
    nginxNative nginxSemver (relText a b c ++ ['+']) = .ok [.mk .ge (relText a b c)] := by
  rw [nginx_single _ _ (List.forall_mem_append.mpr ⟨relText_nginxChar a b c, by simp [nginxChar]⟩),
    nginx_plus_mainline nginxSemver _ _ (relText_no_dash a b c)
      (relText_no_plus a b c) (nginxSemver_make_relText a b c)
      (by simp [nginxSemver_isStable, hb]),
    nginxSemver_str_release]

theorem relText_dash_chars (a b c d e f : Nat) :
    ∀ x ∈ relText a b c ++ '-' :: relText d e f, nginxChar x :=
  List.forall_mem_append.mpr ⟨relText_nginxChar a b c,
    List.forall_mem_cons.mpr ⟨by simp [nginxChar], relText_nginxChar d e f⟩⟩

theorem nginx_dash_numeric (a b c d e f : Nat) (hne : ¬ (a = d ∧ b = e ∧ c = f)) :
    nginxNative nginxSemver (relText a b c ++ '-' :: relText d e f) =
      .ok [.mk .ge (relText a b c), .mk .le (relText d e f)] := by
  rw [nginx_single _ _ (relText_dash_chars a b c d e f),
    nginx_dash nginxSemver _ _ _ _ (relText_no_dash a b c)
      (nginxSemver_make_relText a b c) (nginxSemver_make_relText d e f)
      (by rw [nginxSemver_eq_release]; simpa using hne),
    nginxSemver_str_release, nginxSemver_str_release]

theorem nginx_dash_equal_numeric (a b c : Nat) :
    nginxNative nginxSemver (relText a b c ++ '-' :: relText a b c) =
      .ok [.mk .eq (relText a b c)] := by
  rw [nginx_single _ _ (relText_dash_chars a b c a b c),
    nginx_dash_equal nginxSemver _ _ _ _ (relText_no_dash a b c)
      (nginxSemver_make_relText a b c) (nginxSemver_make_relText a b c)
      (by rw [nginxSemver_eq_release]; simp),
    nginxSemver_str_release]

theorem nginx_plain_numeric (a b c : Nat) :
    nginxNative nginxSemver (relText a b c) = .ok [.mk .eq (relText a b c)] := by
  rw [nginx_single _ _ (relText_nginxChar a b c),
    nginx_plain nginxSemver _ _ (relText_no_dash a b c)
      (relText_no_plus a b c) (nginxSemver_make_relText a b c),
    nginxSemver_str_release]

/-- (a) OpenSSL (C06): the text, lower-cased and without whitespace, is a comma-separated list of
versions; each one is stated with `=` -/
theorem openssl_exact (mk : Str → Except TErr Str) (s : Str) (vs : List Str) (hne : vs ≠ [])
    (hnc : ∀ v ∈ vs, ',' ∉ v) (h : lower (removeSpaces s) = joinWith ',' vs) :
    opensslNative mk s = constraintsOf mk (vs.map (fun v => (Cmpr.eq, v))) := by
  unfold opensslNative
  rw [h, splitOn_eq, joinWith_eq, Text.Str.splitChar_join hne hnc]
  exact collect_single_eq mk (fun v => (Cmpr.eq, v)) fun v _ => buildCon_cmprText mk .eq v


end Univers.Text.Advisory
