/-
Layer C/D — Python `str` methods on `List Char`, as the text layers use them, with the small
lemmas the text-layer theorems need.  Core Lean only.

Every function is tied to CPython by the driver command `strop` (`Univers/Driver/TextVers.lean`)
and `harness/corr_textvers.py` (section "strop").

Domain: the functions are exact on ASCII.  `isSpace` also lists the non-ASCII code points of
`str.isspace`; `lower` only maps `A`–`Z` (Python's `str.lower` also maps non-ASCII letters:
out of the domain).
-/
namespace Univers.Text.Str

/-! ### definitions -/

/-- `ch.isspace()` (`Py_UNICODE_ISSPACE`): the characters `str.split()` and `str.strip()`
without argument treat as whitespace.  On ASCII: 9–13 and 28–32. -/
def isSpace (c : Char) : Bool :=
  let n := c.toNat
  (9 ≤ n && n ≤ 13) || (28 ≤ n && n ≤ 32) || n == 0x85 || n == 0xa0 || n == 0x1680 ||
  (0x2000 ≤ n && n ≤ 0x200a) || n == 0x2028 || n == 0x2029 || n == 0x202f || n == 0x205f ||
  n == 0x3000

/-- loop of `str.split()` without argument; `cur` is the current field, reversed -/
def splitWsAux : List Char → List Char → List (List Char)
  | [], cur => if cur.isEmpty then [] else [cur.reverse]
  | c :: cs, cur =>
      if isSpace c then
        if cur.isEmpty then splitWsAux cs [] else cur.reverse :: splitWsAux cs []
      else splitWsAux cs (c :: cur)

/-- `s.split()`: split on runs of whitespace, no empty field -/
def splitWs (s : List Char) : List (List Char) := splitWsAux s []

/-- `"".join(parts)` -/
def concat (parts : List (List Char)) : List Char := parts.flatten

/-- `sep.join(parts)` -/
def join (sep : List Char) : List (List Char) → List Char
  | [] => []
  | [p] => p
  | p :: q :: ps => p ++ sep ++ join sep (q :: ps)

/-- `univers.utils.remove_spaces`: `"".join(string.split())` -/
def removeSpaces (s : List Char) : List Char := concat (splitWs s)

/-- `s.lstrip()` -/
def lstripWs (s : List Char) : List Char := s.dropWhile isSpace

/-- `s.rstrip()` -/
def rstripWs (s : List Char) : List Char := (s.reverse.dropWhile isSpace).reverse

/-- `s.strip()` -/
def stripWs (s : List Char) : List Char := rstripWs (lstripWs s)

/-- `s.lstrip(chars)`: strips a character SET -/
def lstripSet (chars s : List Char) : List Char := s.dropWhile (fun c => chars.contains c)

/-- `s.rstrip(chars)` -/
def rstripSet (chars s : List Char) : List Char :=
  (s.reverse.dropWhile (fun c => chars.contains c)).reverse

/-- `s.strip(chars)` -/
def stripSet (chars s : List Char) : List Char := rstripSet chars (lstripSet chars s)

/-- `s.startswith(pre)` -/
def startsWith (s pre : List Char) : Bool := pre.isPrefixOf s

/-- `s.endswith(suf)` -/
def endsWith (s suf : List Char) : Bool := suf.isSuffixOf s

/-- `s.partition(sep)` for a one-character separator: `(before, sep or "", after)` -/
def partitionChar (sep : Char) (s : List Char) : List Char × List Char × List Char :=
  let b := s.takeWhile (fun c => c != sep)
  match s.dropWhile (fun c => c != sep) with
  | [] => (b, [], [])
  | _ :: rest => (b, [sep], rest)

/-- `s.partition(sep)` for a non-empty separator string -/
def partitionStr (sep : List Char) : List Char → List Char × List Char × List Char
  | [] => ([], [], [])
  | c :: cs =>
      if sep.isPrefixOf (c :: cs) then ([], sep, (c :: cs).drop sep.length)
      else
        let r := partitionStr sep cs
        match r.2.1 with
        | [] => (c :: cs, [], [])
        | _ => (c :: r.1, r.2.1, r.2.2)

/-- `s.split(sep)` for a one-character separator: keeps empty fields, never returns `[]` -/
def splitChar (sep : Char) : List Char → List (List Char)
  | [] => [[]]
  | c :: cs =>
      if c = sep then [] :: splitChar sep cs
      else
        match splitChar sep cs with
        | [] => [[c]]
        | p :: ps => (c :: p) :: ps

/-- loop of `s.split(sep)` for a non-empty separator string; `skip` counts the characters of a
separator occurrence still to be skipped, `cur` is the current field reversed -/
def splitStrAux (sep : List Char) : List Char → Nat → List Char → List (List Char)
  | [], _, cur => [cur.reverse]
  | _ :: cs, skip + 1, cur => splitStrAux sep cs skip cur
  | c :: cs, 0, cur =>
      if sep.isPrefixOf (c :: cs) then cur.reverse :: splitStrAux sep cs (sep.length - 1) []
      else splitStrAux sep cs 0 (c :: cur)

/-- `s.split(sep)` for a non-empty separator string -/
def splitStr (sep s : List Char) : List (List Char) := splitStrAux sep s 0 []

/-- `ch.lower()` on ASCII -/
def lowerChar (c : Char) : Char :=
  match c with
  | 'A' => 'a' | 'B' => 'b' | 'C' => 'c' | 'D' => 'd' | 'E' => 'e' | 'F' => 'f' | 'G' => 'g'
  | 'H' => 'h' | 'I' => 'i' | 'J' => 'j' | 'K' => 'k' | 'L' => 'l' | 'M' => 'm' | 'N' => 'n'
  | 'O' => 'o' | 'P' => 'p' | 'Q' => 'q' | 'R' => 'r' | 'S' => 's' | 'T' => 't' | 'U' => 'u'
  | 'V' => 'v' | 'W' => 'w' | 'X' => 'x' | 'Y' => 'y' | 'Z' => 'z'
  | c => c

/-- `ch.upper()` on ASCII -/
def upperChar (c : Char) : Char :=
  match c with
  | 'a' => 'A' | 'b' => 'B' | 'c' => 'C' | 'd' => 'D' | 'e' => 'E' | 'f' => 'F' | 'g' => 'G'
  | 'h' => 'H' | 'i' => 'I' | 'j' => 'J' | 'k' => 'K' | 'l' => 'L' | 'm' => 'M' | 'n' => 'N'
  | 'o' => 'O' | 'p' => 'P' | 'q' => 'Q' | 'r' => 'R' | 's' => 'S' | 't' => 'T' | 'u' => 'U'
  | 'v' => 'V' | 'w' => 'W' | 'x' => 'X' | 'y' => 'Y' | 'z' => 'Z'
  | c => c

/-- `s.lower()` (exact on ASCII) -/
def lower (s : List Char) : List Char := s.map lowerChar

/-- `s.upper()` (exact on ASCII) -/
def upper (s : List Char) : List Char := s.map upperChar

/-- the character is written as itself inside `ascii(s)` (quotes apart): printable ASCII other
than the backslash.  Every other character becomes an escape of two or more characters. -/
def reprPlain (c : Char) : Bool := 32 ≤ c.toNat && c.toNat ≤ 126 && c != '\\'

/-- the test `len(s) + 2 == len(ascii(s))` that univers uses as "is ASCII": no character of
`s` is escaped by `ascii`.  Escaped are: non-ASCII and control characters, DEL, the backslash,
and the single quote when `s` contains both kinds of quote (`repr` then delimits with `'`). -/
def isAsciiRepr (s : List Char) : Bool :=
  s.all reprPlain && !(s.contains '\'' && s.contains '"')

/-- `ch.isdigit()` on ASCII -/
def isDigit (c : Char) : Bool := 48 ≤ c.toNat && c.toNat ≤ 57

/-- `s.isdigit()` on ASCII: non-empty and only digits -/
def allDigits (s : List Char) : Bool := !s.isEmpty && s.all isDigit

/-- `int(s)` for a string of ASCII digits -/
def natOfDigits (s : List Char) : Nat := s.foldl (fun n c => 10 * n + (c.toNat - 48)) 0

theorem splitWsAux_flatten (s cur : List Char) :
    (splitWsAux s cur).flatten = cur.reverse ++ s.filter (fun c => !isSpace c) := by
  induction s generalizing cur with
  | nil => cases cur <;> simp [splitWsAux]
  | cons c cs ih =>
    by_cases hc : isSpace c = true
    · cases cur <;> simp [splitWsAux, hc, ih]
    · simp [splitWsAux, hc, ih]

theorem removeSpaces_eq_filter (s : List Char) :
    removeSpaces s = s.filter (fun c => !isSpace c) := by
  simp [removeSpaces, concat, splitWs, splitWsAux_flatten]

theorem removeSpaces_append (a b : List Char) :
    removeSpaces (a ++ b) = removeSpaces a ++ removeSpaces b := by
  simp [removeSpaces_eq_filter]

@[simp] theorem removeSpaces_nil : removeSpaces [] = [] := by simp [removeSpaces_eq_filter]

theorem removeSpaces_cons (c : Char) (s : List Char) :
    removeSpaces (c :: s) = if isSpace c then removeSpaces s else c :: removeSpaces s := by
  by_cases h : isSpace c = true <;> simp [removeSpaces_eq_filter, h]

theorem removeSpaces_idem (s : List Char) : removeSpaces (removeSpaces s) = removeSpaces s := by
  simp [removeSpaces_eq_filter]

theorem removeSpaces_of_noSpace {s : List Char} (h : s.all (fun c => !isSpace c) = true) :
    removeSpaces s = s := by
  rw [removeSpaces_eq_filter]
  exact List.filter_eq_self.mpr (by simpa using h)

theorem noSpace_removeSpaces (s : List Char) :
    (removeSpaces s).all (fun c => !isSpace c) = true := by
  simp [removeSpaces_eq_filter]

theorem mem_removeSpaces {s : List Char} {c : Char} :
    c ∈ removeSpaces s ↔ c ∈ s ∧ isSpace c = false := by
  simp [removeSpaces_eq_filter]

theorem not_mem_removeSpaces {s : List Char} {c : Char} (h : c ∉ s) : c ∉ removeSpaces s :=
  fun hc => h (mem_removeSpaces.mp hc).1

theorem removeSpaces_eq_self_iff {s : List Char} :
    removeSpaces s = s ↔ ∀ c ∈ s, isSpace c = false := by
  simp [removeSpaces_eq_filter, List.filter_eq_self]

theorem dropWhile_eq_nil_iff {α} {p : α → Bool} {l : List α} :
    l.dropWhile p = [] ↔ ∀ a ∈ l, p a = true := by
  induction l with
  | nil => simp
  | cons a l ih => by_cases h : p a = true <;> simp [h, ih]

theorem mem_of_lookup {α β} [BEq α] [LawfulBEq α] {l : List (α × β)} {k : α} {v : β}
    (h : l.lookup k = some v) : (k, v) ∈ l := by
  obtain ⟨l₁, l₂, rfl, _⟩ := List.lookup_eq_some_iff.mp h
  exact List.mem_append_right _ List.mem_cons_self

theorem dropWhile_idem {α} (p : α → Bool) (l : List α) :
    (l.dropWhile p).dropWhile p = l.dropWhile p := by
  induction l with
  | nil => rfl
  | cons a l ih =>
    by_cases h : p a = true
    · rw [List.dropWhile_cons_of_pos h, ih]
    · rw [List.dropWhile_cons_of_neg h, List.dropWhile_cons_of_neg h]

theorem stripWs_eq_nil_iff (s : List Char) : stripWs s = [] ↔ removeSpaces s = [] := by
  have h : (∀ c ∈ s.dropWhile isSpace, isSpace c = true) ↔ ∀ c ∈ s, isSpace c = true := by
    rw [← dropWhile_eq_nil_iff, ← dropWhile_eq_nil_iff]
    induction s with
    | nil => rfl
    | cons c s ih => by_cases hc : isSpace c = true <;> simp [hc, ih]
  simp [stripWs, rstripWs, lstripWs, removeSpaces_eq_filter, dropWhile_eq_nil_iff, h]

theorem lower_append (a b : List Char) : lower (a ++ b) = lower a ++ lower b := by
  simp [lower]

@[simp] theorem lower_nil : lower [] = [] := rfl

@[simp] theorem lower_cons (c : Char) (s : List Char) : lower (c :: s) = lowerChar c :: lower s := rfl

/-- the 26 pairs (upper-case letter, lower-case letter) -/
def letterPairs : List (Char × Char) :=
  [('A', 'a'), ('B', 'b'), ('C', 'c'), ('D', 'd'), ('E', 'e'), ('F', 'f'), ('G', 'g'),
   ('H', 'h'), ('I', 'i'), ('J', 'j'), ('K', 'k'), ('L', 'l'), ('M', 'm'), ('N', 'n'),
   ('O', 'o'), ('P', 'p'), ('Q', 'q'), ('R', 'r'), ('S', 's'), ('T', 't'), ('U', 'u'),
   ('V', 'v'), ('W', 'w'), ('X', 'x'), ('Y', 'y'), ('Z', 'z')]

theorem lowerChar_cases (c : Char) : lowerChar c = c ∨ (c, lowerChar c) ∈ letterPairs := by
  fun_cases lowerChar c <;> first | exact .inl rfl | exact .inr (by decide +kernel)

theorem lowerChar_idem (c : Char) : lowerChar (lowerChar c) = lowerChar c := by
  rcases lowerChar_cases c with h | h
  · rw [h, h]
  · exact (by decide +kernel : ∀ p ∈ letterPairs, lowerChar p.2 = p.2) _ h

/-- the upper-case letters come before `a` -/
theorem lowerChar_of_ge {c : Char} (h : 97 ≤ c.toNat) : lowerChar c = c := by
  rcases lowerChar_cases c with h' | h'
  · exact h'
  · exact absurd h ((by decide +kernel : ∀ p ∈ letterPairs, ¬ 97 ≤ p.1.toNat) _ h')

theorem lower_idem (s : List Char) : lower (lower s) = lower s := by
  simp [lower, lowerChar_idem]

theorem isSpace_lowerChar (c : Char) : isSpace (lowerChar c) = isSpace c := by
  rcases lowerChar_cases c with h | h
  · rw [h]
  · have := (by decide +kernel : ∀ p ∈ letterPairs, isSpace p.2 = false ∧ isSpace p.1 = false) _ h
    rw [this.1, this.2]

theorem reprPlain_lowerChar (c : Char) : reprPlain (lowerChar c) = reprPlain c := by
  rcases lowerChar_cases c with h | h
  · rw [h]
  · have := (by decide +kernel : ∀ p ∈ letterPairs, reprPlain p.2 = true ∧ reprPlain p.1 = true) _ h
    rw [this.1, this.2]

/-- `hu`: `d` is not a lower-case letter -/
theorem lowerChar_eq_of_not_letter {c d : Char} (hu : upperChar d = d) (h : lowerChar c = d) :
    c = d := by
  subst h
  rcases lowerChar_cases c with h | h
  · exact h.symm
  · exact absurd hu ((by decide +kernel : ∀ p ∈ letterPairs, upperChar p.2 ≠ p.2) _ h)

theorem lowerChar_eq_iff_of_not_letter {c d : Char} (hd : lowerChar d = d) (hu : upperChar d = d) :
    lowerChar c = d ↔ c = d :=
  ⟨lowerChar_eq_of_not_letter hu, fun h => h ▸ hd⟩

theorem removeSpaces_lower (s : List Char) : removeSpaces (lower s) = lower (removeSpaces s) := by
  induction s with
  | nil => rfl
  | cons c s ih =>
    rw [lower_cons, removeSpaces_cons, removeSpaces_cons, isSpace_lowerChar, ih]
    by_cases h : isSpace c = true <;> simp [h]

theorem mem_lower_of_not_letter {d : Char} (hd : lowerChar d = d) (hu : upperChar d = d)
    (s : List Char) : d ∈ lower s ↔ d ∈ s := by
  rw [lower, List.mem_map]
  exact ⟨fun ⟨c, hc, e⟩ => lowerChar_eq_of_not_letter hu e ▸ hc, fun h => ⟨d, h, hd⟩⟩

theorem isAsciiRepr_iff (s : List Char) :
    isAsciiRepr s = true ↔ (∀ c ∈ s, reprPlain c = true) ∧ ¬ ('\'' ∈ s ∧ '"' ∈ s) := by
  simp [isAsciiRepr, -not_and, Classical.not_and_iff_not_or_not]

theorem isAsciiRepr_of_subset {a b : List Char} (h : ∀ c ∈ a, c ∈ b)
    (hb : isAsciiRepr b = true) : isAsciiRepr a = true := by
  rw [isAsciiRepr_iff] at hb ⊢
  exact ⟨fun c hc => hb.1 c (h c hc), fun ⟨h1, h2⟩ => hb.2 ⟨h _ h1, h _ h2⟩⟩

theorem isAsciiRepr_eq_of {a b : List Char}
    (h1 : (∀ c ∈ a, reprPlain c = true) ↔ (∀ c ∈ b, reprPlain c = true))
    (h2 : '\'' ∈ a ↔ '\'' ∈ b) (h3 : '"' ∈ a ↔ '"' ∈ b) : isAsciiRepr a = isAsciiRepr b := by
  rw [Bool.eq_iff_iff, isAsciiRepr_iff, isAsciiRepr_iff, h1, h2, h3]

theorem isAsciiRepr_congr {a b : List Char} (h : ∀ c, c ∈ a ↔ c ∈ b) :
    isAsciiRepr a = isAsciiRepr b :=
  isAsciiRepr_eq_of (by simp only [h]) (h _) (h _)

theorem isAsciiRepr_lower (s : List Char) : isAsciiRepr (lower s) = isAsciiRepr s :=
  isAsciiRepr_eq_of (by simp only [lower, List.forall_mem_map, reprPlain_lowerChar])
    (mem_lower_of_not_letter (by decide +kernel) (by decide +kernel) s)
    (mem_lower_of_not_letter (by decide +kernel) (by decide +kernel) s)

theorem isAsciiRepr_pad {x a : List Char} (p q : List Char)
    (h : ∀ c ∈ p ++ q, reprPlain c = true ∧ c ≠ '\'' ∧ c ≠ '"') :
    isAsciiRepr (x ++ (p ++ a ++ q)) = isAsciiRepr (x ++ a) := by
  simp only [List.mem_append, or_imp, forall_and] at h
  obtain ⟨⟨hp, hq⟩, ⟨hp1, hq1⟩, hp2, hq2⟩ := h
  apply isAsciiRepr_eq_of
  · simp only [List.mem_append, or_imp, forall_and]
    exact ⟨fun hx => ⟨hx.1, hx.2.1.2⟩, fun hx => ⟨hx.1, ⟨hp, hx.2⟩, hq⟩⟩
  · simp only [List.mem_append, show '\'' ∉ p from fun hm => hp1 _ hm rfl,
      show '\'' ∉ q from fun hm => hq1 _ hm rfl, false_or, or_false]
  · simp only [List.mem_append, show '"' ∉ p from fun hm => hp2 _ hm rfl,
      show '"' ∉ q from fun hm => hq2 _ hm rfl, false_or, or_false]

theorem bne_of_not_mem {sep : Char} {a : List Char} (h : sep ∉ a) : ∀ c ∈ a, (c != sep) = true :=
  fun _ hc => bne_iff_ne.mpr fun e => h (e ▸ hc)

theorem partitionChar_append {sep : Char} {a : List Char} (b : List Char) (h : sep ∉ a) :
    partitionChar sep (a ++ sep :: b) = (a, [sep], b) := by
  simp [partitionChar, List.takeWhile_append_of_pos (bne_of_not_mem h),
    List.dropWhile_append_of_pos (bne_of_not_mem h)]

theorem partitionChar_of_not_mem {sep : Char} {a : List Char} (h : sep ∉ a) :
    partitionChar sep a = (a, [], []) := by
  have := List.takeWhile_append_dropWhile (p := (· != sep)) (l := a)
  rw [dropWhile_eq_nil_iff.mpr (bne_of_not_mem h), List.append_nil] at this
  simp only [partitionChar, this, dropWhile_eq_nil_iff.mpr (bne_of_not_mem h)]

theorem splitChar_ne_nil (sep : Char) (s : List Char) : splitChar sep s ≠ [] := by
  fun_cases splitChar sep s <;> exact List.cons_ne_nil _ _

theorem splitChar_of_not_mem {sep : Char} {p : List Char} (h : sep ∉ p) :
    splitChar sep p = [p] := by
  induction p with
  | nil => rfl
  | cons c cs ih =>
    rw [List.mem_cons, not_or] at h
    simp [splitChar, Ne.symm h.1, ih h.2]

theorem splitChar_append {sep : Char} {p : List Char} (rest : List Char) (h : sep ∉ p) :
    splitChar sep (p ++ sep :: rest) = p :: splitChar sep rest := by
  induction p with
  | nil => simp [splitChar]
  | cons c cs ih =>
    rw [List.mem_cons, not_or] at h
    simp [splitChar, Ne.symm h.1, ih h.2]

theorem splitChar_join {sep : Char} {parts : List (List Char)} (hne : parts ≠ [])
    (h : ∀ p ∈ parts, sep ∉ p) : splitChar sep (join [sep] parts) = parts := by
  fun_induction join [sep] parts with
  | case1 => exact absurd rfl hne
  | case2 p => exact splitChar_of_not_mem (h p List.mem_cons_self)
  | case3 p q ps ih =>
    rw [List.append_assoc, List.singleton_append, splitChar_append _ (h p List.mem_cons_self),
      ih (List.cons_ne_nil _ _) fun r hr => h r (List.mem_cons_of_mem _ hr)]

/-- the equation of `splitChar` on `c :: cs`, with the parts of `cs` named -/
theorem splitChar_cons (sep c : Char) (cs : List Char) : ∃ p ps, splitChar sep cs = p :: ps ∧
    splitChar sep (c :: cs) = if c = sep then [] :: p :: ps else (c :: p) :: ps := by
  cases h : splitChar sep cs with
  | nil => exact absurd h (splitChar_ne_nil sep cs)
  | cons p ps => exact ⟨p, ps, rfl, by rw [splitChar, h]⟩

theorem join_splitChar (sep : Char) : ∀ s : List Char, join [sep] (splitChar sep s) = s
  | [] => rfl
  | c :: cs => by
    obtain ⟨p, ps, h, hc⟩ := splitChar_cons sep c cs
    have ih := join_splitChar sep cs
    rw [h] at ih
    rw [hc]
    split
    · rename_i hs
      rw [join, ih, hs]; rfl
    · cases ps with
      | nil => rw [join] at ih ⊢; rw [ih]
      | cons q r => rw [join] at ih ⊢; rw [List.cons_append, List.cons_append, ih]

theorem splitChar_inj (sep : Char) {a b : List Char} (h : splitChar sep a = splitChar sep b) :
    a = b := by
  rw [← join_splitChar sep a, ← join_splitChar sep b, h]

theorem splitChar_map (sep : Char) (f : Char → Char) (hf : ∀ c, f c = sep ↔ c = sep) :
    ∀ s : List Char, splitChar sep (s.map f) = (splitChar sep s).map (List.map f)
  | [] => rfl
  | c :: cs => by
    obtain ⟨p, ps, h, hc⟩ := splitChar_cons sep c cs
    rw [List.map_cons, splitChar, splitChar_map sep f hf cs, h, hc]
    by_cases hs : c = sep
    · rw [if_pos ((hf c).2 hs), if_pos hs]; rfl
    · rw [if_neg (mt (hf c).1 hs), if_neg hs]; rfl

theorem all_splitChar (sep : Char) (P : Char → Bool) : ∀ s : List Char,
    (splitChar sep s).all (·.all P) = s.all (fun c => c == sep || P c)
  | [] => rfl
  | c :: cs => by
    obtain ⟨p, ps, h, hc⟩ := splitChar_cons sep c cs
    have ih := all_splitChar sep P cs
    rw [h] at ih
    rw [hc, List.all_cons (l := cs), ← ih]
    by_cases hs : c = sep
    · simp [hs]
    · simp [hs, Bool.and_assoc, beq_eq_false_iff_ne.mpr hs]

theorem mem_join {sep : List Char} {parts : List (List Char)} {c : Char}
    (h : c ∈ join sep parts) : c ∈ sep ∨ ∃ p ∈ parts, c ∈ p := by
  fun_induction join sep parts with
  | case1 => cases h
  | case2 p => exact .inr ⟨p, List.mem_cons_self, h⟩
  | case3 p q ps ih =>
    simp only [List.mem_append] at h
    rcases h with (h | h) | h
    · exact .inr ⟨p, List.mem_cons_self, h⟩
    · exact .inl h
    · exact (ih h).imp_right fun ⟨r, hr, hc⟩ => ⟨r, List.mem_cons_of_mem _ hr, hc⟩

theorem mem_join_of_mem {sep : List Char} {parts : List (List Char)} {p : List Char} {c : Char}
    (hp : p ∈ parts) (hc : c ∈ p) : c ∈ join sep parts := by
  fun_induction join sep parts with
  | case1 => cases hp
  | case2 q => exact List.mem_singleton.mp hp ▸ hc
  | case3 q r rs ih =>
    rcases List.mem_cons.mp hp with rfl | e
    · exact List.mem_append_left _ (List.mem_append_left _ hc)
    · exact List.mem_append_right _ (ih e)

theorem mem_of_mem_splitChar {sep c : Char} {s p : List Char} (hp : p ∈ splitChar sep s)
    (hc : c ∈ p) : c ∈ s ∧ c ≠ sep := by
  have h : (splitChar sep s).all (·.all (· != sep)) = true :=
    (all_splitChar sep (· != sep) s).trans (List.all_eq_true.mpr fun c _ => Bool.or_not_self _)
  exact ⟨join_splitChar sep s ▸ mem_join_of_mem hp hc,
    bne_iff_ne.mp (List.all_eq_true.mp (List.all_eq_true.mp h p hp) c hc)⟩

theorem join_cons_cons (sep : List Char) (x : Char) (xs : List Char) (ps : List (List Char)) :
    ∃ rest, join sep ((x :: xs) :: ps) = x :: rest := by
  cases ps with
  | nil => exact ⟨xs, rfl⟩
  | cons q qs => exact ⟨xs ++ sep ++ join sep (q :: qs), by simp [join]⟩

theorem join_eq_snoc {sep : List Char} {parts : List (List Char)} (hne : parts ≠ [])
    (h : ∀ p ∈ parts, p ≠ []) :
    ∃ init y, join sep parts = init ++ [y] ∧ ∃ p ∈ parts, y ∈ p := by
  fun_induction join sep parts with
  | case1 => exact absurd rfl hne
  | case2 p =>
    have hp := h p List.mem_cons_self
    exact ⟨p.dropLast, p.getLast hp, (List.dropLast_concat_getLast hp).symm, p,
      List.mem_cons_self, List.getLast_mem hp⟩
  | case3 p q ps ih =>
    obtain ⟨init, y, he, r, hr, hy⟩ :=
      ih (List.cons_ne_nil _ _) fun r hr => h r (List.mem_cons_of_mem _ hr)
    exact ⟨p ++ sep ++ init, y, by simp only [he, List.append_assoc], r, List.mem_cons_of_mem _ hr, hy⟩

@[simp] theorem lstripSet_nil (chars : List Char) : lstripSet chars [] = [] := rfl

theorem lstripSet_of_head {chars : List Char} {c : Char} (s : List Char) (h : c ∉ chars) :
    lstripSet chars (c :: s) = c :: s :=
  List.dropWhile_cons_of_neg fun hc => h (List.contains_iff_mem.mp hc)

theorem lstripSet_append {chars a : List Char} (s : List Char)
    (h : ∀ c ∈ a, chars.contains c = true) : lstripSet chars (a ++ s) = lstripSet chars s :=
  List.dropWhile_append_of_pos h

theorem lstripSet_append_cons {chars : List Char} {x : Char} (a b : List Char) (h : x ∉ chars) :
    lstripSet chars (a ++ x :: b) = lstripSet chars a ++ x :: b := by
  rw [lstripSet, List.dropWhile_append, ← lstripSet, ← lstripSet, lstripSet_of_head b h]
  split
  · rename_i he; rw [List.isEmpty_iff.mp he, List.nil_append]
  · rfl

theorem rstripSet_append {chars b : List Char} (s : List Char)
    (h : ∀ c ∈ b, chars.contains c = true) : rstripSet chars (s ++ b) = rstripSet chars s := by
  unfold rstripSet
  rw [List.reverse_append, List.dropWhile_append_of_pos (by simpa using h)]

theorem stripSet_of_ends {chars s r i : List Char} {x y : Char} (hx : x ∉ chars) (hy : y ∉ chars)
    (h1 : s = x :: r) (h2 : s = i ++ [y]) : stripSet chars s = s := by
  rw [stripSet, h1, lstripSet_of_head r hx, ← h1, h2]
  rw [rstripSet, List.reverse_append, List.reverse_singleton, List.singleton_append, ← lstripSet,
    lstripSet_of_head _ hy, List.reverse_cons, List.reverse_reverse]

theorem stripSet_pad {chars a b : List Char} (s : List Char)
    (ha : ∀ c ∈ a, chars.contains c = true) (hb : ∀ c ∈ b, chars.contains c = true) :
    stripSet chars (a ++ s ++ b) = stripSet chars s := by
  unfold stripSet
  rw [List.append_assoc, lstripSet_append _ ha]
  unfold lstripSet
  rw [List.dropWhile_append]
  split
  · rename_i he
    rw [List.isEmpty_iff.mp he, dropWhile_eq_nil_iff.mpr hb]
  · exact rstripSet_append _ hb

theorem startsWith_cons_cons (c d : Char) (s pre : List Char) :
    startsWith (c :: s) (d :: pre) = (d == c && startsWith s pre) := by
  simp [startsWith, List.isPrefixOf]

@[simp] theorem startsWith_nil_right (s : List Char) : startsWith s [] = true := by
  simp [startsWith, List.isPrefixOf]

@[simp] theorem startsWith_nil_cons (d : Char) (pre : List Char) :
    startsWith [] (d :: pre) = false := by
  simp [startsWith, List.isPrefixOf]

theorem startsWith_append (pre s : List Char) : startsWith (pre ++ s) pre = true := by
  simp [startsWith]

theorem startsWith_append_cons {x : Char} {pre : List Char} (a b : List Char) (h : x ∉ pre) :
    startsWith (a ++ x :: b) pre = startsWith a pre := by
  induction pre generalizing a with
  | nil => simp
  | cons d pre ih =>
    have hd : (d == x) = false := beq_eq_false_iff_ne.mpr fun e => h (e ▸ List.mem_cons_self)
    cases a with
    | nil => simp [startsWith_cons_cons, hd]
    | cons c a =>
      simp only [List.cons_append, startsWith_cons_cons, ih a fun hm => h (List.mem_cons_of_mem _ hm)]
end Univers.Text.Str
