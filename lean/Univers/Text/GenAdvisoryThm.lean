/-
Agreement theorems for the advisory converters as translated from `univers/version_range.py` on every run
(`Univers/Gen/PyTextGithubCon.lean`, `PyTextGithubRange.lean`, `PyTextSnykRange.lean`):
`build_constraint_from_github_advisory_string`, `build_range_from_github_advisory_constraint` and
`build_range_from_snyk_advisory_string` are the model's `githubConstraint`, `fromGithub` and `fromSnyk` of
`Univers/Text/Advisory.lean`, which the theorems of C15 are about.

The advisory model reads ASCII text (`GenSplitReqThm.lean`); the scheme is a registered or unregistered name; a
`str`-or-list argument is the list.
-/
import Univers.Gen.PyTextGithubRange
import Univers.Gen.PyTextSnykRange
import Univers.Text.GenSplitReqThm
import Univers.Text.VersThm
import Univers.Text.AdvisoryThm

namespace Univers.Gen.Text
open Univers Univers.PyRt Univers.Text Univers.Text.Vers Univers.Text.PyText

variable (mkVer : MkVer)

/-! The run-time of the translated code reads the generated tables with `List Char` keys (`Text/Vers.lean`), the advisory
model with `String` keys or through `List.lookup` (`Text/Advisory.lean`): the two name the same entries. -/

theorem lookup_map_toList {β : Type} (l : List (String × β)) (s : String) :
    (l.map (fun p => (p.1.toList, p.2))).lookup s.toList = l.lookup s := by
  induction l with
  | nil => rfl
  | cons p ps ih =>
    obtain ⟨a, b⟩ := p
    have : (s.toList == a.toList) = (s == a) := by
      rw [Bool.eq_iff_iff, beq_iff_eq, beq_iff_eq, String.toList_inj]
    simp only [List.map_cons, List.lookup_cons, this, ih]

theorem registryL_lookup (scheme : String) : registryL.lookup scheme.toList = Advisory.rangeClassOf scheme :=
  lookup_map_toList _ _

theorem lookupComparator_eq (k : List Char) : Vers.lookupComparator k = Advisory.cmprOfText k := by
  unfold Vers.lookupComparator Advisory.cmprOfText
  generalize Gen.comparators = l
  induction l with
  | nil => rfl
  | cons p ps ih =>
    rw [List.find?_cons, List.map_cons, List.lookup_cons, BEq.comm (a := k)]
    cases p.1.toList == k with
    | true => rfl
    | false => exact ih

theorem mkTConOpt_eq (c : Option (List Char)) (v : List Char) : mkTConOpt c v = Advisory.mkCon c v := by
  unfold mkTConOpt Advisory.mkCon
  cases c with
  | none => rfl
  | some t =>
    simp only [mkTCon, lookupComparator_eq]
    cases Advisory.cmprOfText t with
    | none => rfl
    | some o => cases o <;> rfl

theorem buildCon_eq (mk : List Char → Except TErr (List Char)) (c : Option (List Char)) (v : List Char) :
    (mk v >>= fun w => mkTConOpt c w) = Advisory.buildCon mk c v := by
  simp only [mkTConOpt_eq, Advisory.buildCon]
  cases mk v <;> rfl

theorem ascii_splitOn {sep : Char} {s : List Char} (h : Ascii s) : ∀ p ∈ Advisory.splitOn sep s, Ascii p :=
  fun p hp c hc => h c <| by
    rw [Advisory.splitOn_eq] at hp
    rw [← Str.join_splitChar sep s]
    exact Str.mem_join_of_mem hp hc

/-- a loop whose body appends what `f` makes of the item to the list it carries is the model's `collect` -/
theorem pyFor_collect {α β ρ : Type} (f : α → Except TErr (List β)) {body} {k : List β → Except TErr ρ} {xs : List α}
    (acc : List β)
    (h : ∀ x ∈ xs, ∀ acc, body x acc = (f x >>= fun bs => .ok (.next (acc ++ bs)))) :
    pyFor xs acc body k = (Advisory.collect f xs >>= fun ks => k (acc ++ ks)) := by
  induction xs generalizing acc with
  | nil => simp only [pyFor_nil, Advisory.collect, bind, Except.bind, List.append_nil]
  | cons x xs ih =>
    rw [pyFor_cons, h x (List.mem_cons_self ..), Advisory.collect]
    cases f x with
    | error e => rfl
    | ok bs =>
      simp only [bind, Except.bind, Step.cont_next]
      rw [ih _ fun y hy => h y (List.mem_cons_of_mem _ hy)]
      cases Advisory.collect f xs with
      | error e => rfl
      | ok ks => simp only [bind, Except.bind, List.append_assoc]

theorem scheme_cases (scheme : String) :
    (registryIndex scheme.toList = .error .KeyError ∧ Advisory.rangeClassOf scheme = none
      ∧ Advisory.verOfScheme mkVer scheme = .error .KeyError)
    ∨ ∃ cls vc, registryIndex scheme.toList = .ok cls ∧ Advisory.rangeClassOf scheme = some cls
        ∧ Advisory.verOfScheme mkVer scheme = .ok (mkVer vc) ∧ versionClassOfE cls = .ok vc := by
  unfold registryIndex Advisory.verOfScheme
  rw [registryL_lookup]
  cases h : Advisory.rangeClassOf scheme with
  | none => exact .inl ⟨rfl, rfl, rfl⟩
  | some cls =>
    obtain ⟨vc, hvc⟩ := Option.isSome_iff_exists.mp (registry_versionClass (scheme, cls) (Str.mem_of_lookup h))
    -- `Advisory.versionClassOf` is `Vers.versionClassOf`, written a second time
    have hvc' : Advisory.versionClassOf cls = some vc := hvc
    exact .inr ⟨cls, vc, rfl, rfl, by simp only [hvc'], by simp only [versionClassOfE, hvc]⟩

/-- `build_constraint_from_github_advisory_string`, behind the scheme lookup of `verOfScheme` -/
theorem py_github_constraint_eq (scheme : String) (string : List Char) (hs : Ascii string) :
    py_github_constraint mkVer scheme.toList string
      = (match Advisory.verOfScheme mkVer scheme with
         | .error e => .error e
         | .ok mk => Advisory.githubConstraint mk string) := by
  unfold py_github_constraint
  rcases scheme_cases mkVer scheme with ⟨h1, _, h2⟩ | ⟨cls, vc, h1, _, h2, h3⟩
  · rw [h1, h2]; rfl
  · rw [h1, h2]
    simp only [bind, Except.bind, h3, py_split_req_eq (mkVer "") string hs, Advisory.githubConstraint]
    cases Advisory.splitReq string Advisory.githubDict none [] with
    | error e => rfl
    | ok cv => exact buildCon_eq (mkVer vc) cv.1 cv.2

/-- the two loops: the outer one (`for item in string`) collects what the inner one (`for constraint in
constraint_strings`) makes of the pieces of each item -/
theorem github_loops_eq (scheme : String) (mk : List Char → Except TErr (List Char))
    (hmk : Advisory.verOfScheme mkVer scheme = .ok mk) (string) (vrc : String) (items : List (List Char))
    (hitems : ∀ i ∈ items, Ascii i) (acc : List TCon) :
    pyFor items acc (py_github_range_for1_body mkVer scheme.toList string vrc)
        (py_github_range_for1_after mkVer scheme.toList string vrc)
      = (Advisory.githubItems mk items >>= fun ks => .ok (vrc, acc ++ ks)) :=
  pyFor_collect _ acc fun i hi acc => by
    simp only [py_github_range_for1_body, ← Advisory.splitOn_eq]
    exact pyFor_collect _ acc fun c hc acc => by
      simp only [py_github_range_for2_body, py_github_constraint_eq mkVer scheme c (ascii_splitOn (hitems i hi) c hc), hmk]
      cases Advisory.githubConstraint mk c <;> rfl

/-- `build_range_from_github_advisory_constraint`, with the class of the range it builds: the registered class of the
scheme -/
theorem py_github_range_eq (scheme : String) (items : List (List Char)) (hitems : ∀ i ∈ items, Ascii i) :
    py_github_range mkVer scheme.toList items
      = (match Advisory.rangeClassOf scheme with
         | none => .error .KeyError
         | some cls =>
           match Advisory.fromGithub mkVer scheme items with
           | .error e => .error e
           | .ok ks => .ok (cls, ks)) := by
  unfold py_github_range Advisory.fromGithub
  rcases scheme_cases mkVer scheme with ⟨h1, h2, h3⟩ | ⟨cls, vc, h1, h2, h3, _⟩
  · rw [h1, h2]; rfl
  · rw [h1, h2, h3]
    dsimp only
    refine (github_loops_eq mkVer scheme _ h3 items cls items hitems []).trans ?_
    cases Advisory.githubItems (mkVer vc) items <;> rfl

theorem anyCharIn_brackets (s : List Char) : anyCharIn ['[', ']', '(', ')'] s = Advisory.hasBracket s := by
  unfold anyCharIn Advisory.hasBracket
  rw [Bool.eq_iff_iff]
  simp only [List.any_cons, List.any_nil, Bool.or_false, Bool.or_eq_true, List.contains_iff_mem, List.any_eq_true,
    beq_iff_eq, and_or_left, exists_or, exists_eq_right, or_assoc]

/-- what the model does with the outcome of the split of one constraint -/
def snykOut (mk : List Char → Except TErr (List Char)) (r : Except TErr (Option (List Char) × List Char)) :
    Except TErr (List TCon) :=
  match r with
  | .error e => .error e
  | .ok (c, v) =>
    if (match c with | some t => !t.isEmpty | none => false) && !v.isEmpty then
      match Advisory.buildCon mk c v with
      | .error e => .error e
      | .ok k => .ok [k]
    else .ok []

theorem snykConstraint_out (mk : List Char → Except TErr (List Char)) :
    Advisory.snykConstraint mk = fun c => snykOut mk (if Advisory.hasBracket c then Advisory.splitReqBracket c
      else Advisory.splitReq c Advisory.snykDict none []) := rfl

/-- an inner loop (`for constraint in constraints`; the two loops have the same body), for a class whose version class is
`vc`: it collects what the model's `snykConstraint` makes of each piece -/
theorem snyk_inner_eq (scheme) (vrc vc : String) (hvc : versionClassOfE vrc = .ok vc) (string item delim sc cstrs)
    (cs : List (List Char)) (hcs : ∀ c ∈ cs, Ascii c)
    (k) (acc : List TCon) :
    pyFor cs acc (py_snyk_range_for2_body mkVer scheme string vrc item delim sc cstrs) k
      = (Advisory.collect (Advisory.snykConstraint (mkVer vc)) cs >>= fun bs => k (acc ++ bs)) :=
  pyFor_collect _ acc fun c hc acc => by
    simp only [py_snyk_range_for2_body, anyCharIn_brackets, py_split_req_bracket_eq (mkVer "") c (hcs c hc),
      py_split_req_eq (mkVer "") c (hcs c hc), snykConstraint_out]
    -- the two branches differ in the split only
    rw [ite_bind]
    generalize (if Advisory.hasBracket c = true then _ else _) = r
    rcases r with e | ⟨_ | t, v⟩
    · rfl
    · simp only [bind, Except.bind, snykOut, truthyOpt, Bool.false_and, Bool.false_eq_true, ↓reduceIte, List.append_nil]
    · simp only [bind, Except.bind, snykOut, hvc, truthyOpt, ← buildCon_eq]
      split
      · cases mkVer vc v with
        | error e => rfl
        | ok w => dsimp only; cases mkTConOpt (some t) w <;> rfl
      · simp only [List.append_nil]

theorem stripWs_subset (s : List Char) : Advisory.stripWs s ⊆ s := fun _ hc =>
  List.dropWhile_subset _ (List.mem_reverse.mp (List.dropWhile_subset _ (List.mem_reverse.mp hc)))

/-- the outer loop (`for item in string`) collects what an inner one makes of the pieces of each item -/
theorem snyk_loops_eq (scheme) (vrc vc : String) (hvc : versionClassOfE vrc = .ok vc) (string) (items : List (List Char)) (hitems : ∀ i ∈ items, Ascii i) (acc : List TCon) :
    pyFor items acc (py_snyk_range_for1_body mkVer scheme string vrc) (py_snyk_range_for1_after mkVer scheme string vrc)
      = (Advisory.snykItems (mkVer vc) items >>= fun ks => .ok (vrc, acc ++ ks)) :=
  pyFor_collect _ acc fun i hi acc => by
    have hs := (hitems i hi).subset (stripWs_subset i)
    simp only [py_snyk_range_for1_body, Advisory.snykSplit, ← Advisory.splitOn_eq, stripWs_ascii (hitems i hi), removeChar]
    split
    · rw [if_pos (by decide)]
      exact snyk_inner_eq mkVer scheme vrc vc hvc string i _ _ _ _
        (ascii_splitOn (hs.subset fun _ h => (List.mem_filter.mp h).1)) _ acc
    · rw [if_neg (by decide), show @py_snyk_range_for3_body = @py_snyk_range_for2_body from rfl]
      exact snyk_inner_eq mkVer scheme vrc vc hvc string i _ _ _ _ (ascii_splitOn hs) _ acc

/-- `build_range_from_snyk_advisory_string`, with the class of the range it builds: the registered class of the
scheme -/
theorem py_snyk_range_eq (scheme : String) (items : List (List Char)) (hitems : ∀ i ∈ items, Ascii i) :
    py_snyk_range mkVer scheme.toList items
      = (match Advisory.rangeClassOf scheme with
         | none => .error .KeyError
         | some cls =>
           match Advisory.fromSnyk mkVer scheme items with
           | .error e => .error e
           | .ok ks => .ok (cls, ks)) := by
  unfold py_snyk_range Advisory.fromSnyk
  rcases scheme_cases mkVer scheme with ⟨h1, h2, h3⟩ | ⟨cls, vc, h1, h2, h3, h4⟩
  · rw [h1, h2]; rfl
  · rw [h1, h2, h3]
    dsimp only
    refine (snyk_loops_eq mkVer scheme.toList cls vc h4 items items hitems []).trans ?_
    cases Advisory.snykItems (mkVer vc) items <;> rfl

instance (s : List Char) : Decidable (Ascii s) := by unfold Ascii; infer_instance

example : ∀ i ∈ [">= 1.0, < 2.0".toList, "[3.0,3.1)".toList], Ascii i := by
  repeat rw [String.toList_ofList]
  decide +kernel

example : py_github_range (fun _ v => .ok v) "npm".toList [">= 1.0, < 2.0".toList]
    = .ok ("NpmVersionRange", [.mk .ge "1.0".toList, .mk .lt "2.0".toList]) := by
  repeat rw [String.toList_ofList]
  decide +kernel

example : py_snyk_range (fun _ v => .ok v) "pypi".toList [">=4.0.0, <4.0.10".toList, "(,9.21]".toList]
    = .ok ("PypiVersionRange", [.mk .ge "4.0.0".toList, .mk .lt "4.0.10".toList, .mk .le "9.21".toList]) := by
  repeat rw [String.toList_ofList]
  decide +kernel

example : py_github_range (fun _ v => .ok v) "nosuchscheme".toList [">= 1.0".toList] = .error .KeyError := by
  repeat rw [String.toList_ofList]
  decide +kernel

end Univers.Gen.Text
