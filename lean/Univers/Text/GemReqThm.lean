/-
Theorems about the RubyGems native range converter (`Univers/Text/GemReq.lean`).
-/
import Univers.Text.GemReq
import Univers.Text.GemReqSpec
import Univers.Scheme.GemThm
import Univers.Vers.InvertThm
import Univers.Text.Str

namespace Univers.Text.GemReq

open Std Univers Univers.Text Univers.Text.GP Univers.Gem

/-- decidable equality of results, for the closed counterexamples -/
local instance exceptDecEq {ε α : Type} [DecidableEq ε] [DecidableEq α] : DecidableEq (Except ε α)
  | .ok a, .ok b => decidable_of_iff (a = b) ⟨congrArg _, Except.ok.inj⟩
  | .error a, .error b => decidable_of_iff (a = b) ⟨congrArg _, Except.error.inj⟩
  | .ok _, .error _ => isFalse nofun
  | .error _, .ok _ => isFalse nofun

/-! ### `~>` (C18) -/

theorem bump_wf (v b : Raw) (h : bump v = .ok b) : WellFormed b := by
  obtain ⟨p, x, q, _, rfl⟩ := bump_eq v b h
  exact wf_join _

/-- `bump` only reads the leading numeric segments, which `release` keeps -/
theorem bump_release (v r : Raw) (hv : WellFormed v) (h : release v = .ok r) : bump r = bump v := by
  rw [release_eq, Except.ok.injEq] at h
  subst h
  split
  · unfold bump
    rw [segs_join, if_neg (leadingNums_ne_nil v hv), leadingNums_map_num]
  · rfl

/-- on a well-formed version `get_tilde_constraints` never fails, and its `version.release().bump()`
is `version.bump()` -/
theorem tildeOfVersion_eq (v hi : Raw) (hv : WellFormed v) (hb : bump v = .ok hi) :
    tildeOfVersion v = .ok [⟨.ge, v⟩, ⟨.lt, hi⟩] := by
  obtain ⟨r, hr⟩ := release_ok v
  simp only [tildeOfVersion, hr, liftV, bump_release v r hv hr, hb]

theorem incrLast_append (p : List Nat) (x : Nat) : incrLast (p ++ [x]) = some (p ++ [x + 1]) :=
  incrLast_concat p x

theorem tildeUpper_eq (ns : List Nat) (h : ns ≠ []) :
    incrLast (if ns.length > 1 then ns.dropLast else ns) = some (tildeUpper ns) := by
  fun_induction tildeUpper ns with
  | case1 => exact absurd rfl h
  | case2 | case3 => rfl
  | case4 a b c rest ih =>
    have ih := ih (List.cons_ne_nil _ _)
    rw [if_pos (by simp), List.dropLast_cons_cons] at ih ⊢
    rw [List.dropLast_cons_cons, incrLast, ih]
    rfl

theorem bump_relVer (ns : List Nat) (h : ns ≠ []) : bump (relVer ns) = .ok (relVer (tildeUpper ns)) := by
  unfold bump
  simp only [relVer, relText, segs_join, if_neg h, leadingNums_map_num, tildeUpper_eq ns h]
  exact gemVersion_join _

/-- C06/C18: on a release version `n₁.….nₖ` the pessimistic operator is `>= n₁.….nₖ, < tildeUpper`,
the table RubyGems publishes (instances below) -/
theorem gem_tilde_exact (ns : List Nat) (h : ns ≠ []) :
    tildeOfVersion (relVer ns) = .ok [⟨.ge, relVer ns⟩, ⟨.lt, relVer (tildeUpper ns)⟩] :=
  tildeOfVersion_eq _ _ (wf_join ns) (bump_relVer ns h)

theorem gem_tilde_exact3 (a b c : Nat) :
    tildeOfVersion (relVer [a, b, c]) = .ok [⟨.ge, relVer [a, b, c]⟩, ⟨.lt, relVer [a, b + 1]⟩] :=
  gem_tilde_exact [a, b, c] (by simp)

theorem gem_tilde_exact2 (a b : Nat) :
    tildeOfVersion (relVer [a, b]) = .ok [⟨.ge, relVer [a, b]⟩, ⟨.lt, relVer [a + 1]⟩] :=
  gem_tilde_exact [a, b] (by simp)

theorem gem_tilde_exact1 (a : Nat) :
    tildeOfVersion (relVer [a]) = .ok [⟨.ge, relVer [a]⟩, ⟨.lt, relVer [a + 1]⟩] :=
  gem_tilde_exact [a] (by simp)

/-- C18: for EVERY well-formed version `v` (prereleases included),
`~> v` is `[>= v, < hi]` with `v < hi` (the range is never empty) and `v` satisfies both bounds -/
theorem gem_tilde_bounds (v : Raw) (hv : WellFormed v) :
    ∃ hi, tildeOfVersion v = .ok [⟨.ge, v⟩, ⟨.lt, hi⟩] ∧ vercmp v hi = .lt
      ∧ Cmpr.holds .ge (vercmp v v) = true ∧ Cmpr.holds .lt (vercmp v hi) = true := by
  obtain ⟨hi, hb⟩ := bump_ok v hv
  have hlt := vercmp_bump v hi hb
  refine ⟨hi, tildeOfVersion_eq v hi hv hb, hlt, ?_, ?_⟩
  · rw [ReflCmp.compare_self (cmp := vercmp)]; rfl
  · rw [hlt]; rfl

/-- F25, repaired: `~> 1.0.a` is `>= 1.0.a, < 2`, and `1.0.a` is accepted by the
range and by `satisfied_by` alike -/
theorem gem_tilde_prerelease_example :
    tildeOfVersion ⟨"1.0.a".toList⟩ = .ok [⟨.ge, ⟨"1.0.a".toList⟩⟩, ⟨.lt, ⟨"2".toList⟩⟩]
    ∧ Cmpr.holds .ge (vercmp ⟨"1.0.a".toList⟩ ⟨"1.0.a".toList⟩) = true
    ∧ Cmpr.holds .lt (vercmp ⟨"1.0.a".toList⟩ ⟨"2".toList⟩) = true
    ∧ satisfiedBy [⟨.tilde, ⟨"1.0.a".toList⟩⟩] ⟨"1.0.a".toList⟩ = .ok true := by
  decide +kernel

/-! ### which errors can escape (C16) -/

theorem matchWith_run (t : List Char) (o : Op) (v : List Char) (h : matchWith t o = some v) :
    run .d0 v = true := by
  unfold matchWith at h
  split at h
  · dsimp only at h
    split at h
    · injection h with h; subst h; assumption
    · cases h
  · cases h

theorem patternMatch_run (r : List Char) (g : Option Op × List Char) (h : patternMatch r = some g) :
    run .d0 g.2 = true := by
  unfold patternMatch at h
  dsimp only at h
  split at h
  · rename_i o v hf
    obtain ⟨o', _, ho'⟩ := List.exists_of_findSome?_eq_some hf
    cases hm : matchWith (GP.strip r) o' with
    | none => rw [hm] at ho'; cases ho'
    | some v' =>
      rw [hm] at ho'
      cases ho'; cases h
      exact matchWith_run _ _ _ hm
  · split at h
    · rename_i hr; cases h; exact hr
    · cases h

/-- the special case of `parse` for `>= 0` returns the same value as the general one -/
theorem parse_of_match (r : List Char) (g : Option Op × List Char) (h : patternMatch r = some g) :
    parse r = .ok ⟨g.1.getD .eq, ⟨g.2⟩⟩ := by
  have hg := gemVersion_of_wf _ (wf_of_run g.2 (patternMatch_run r g h))
  unfold parse
  simp only [h, hg, liftV]
  split
  · rename_i hd
    simp only [Bool.and_eq_true, beq_iff_eq] at hd
    rw [hd.1, hd.2]; rfl
  · cases g.1 <;> rfl

abbrev AllWF (l : List GC) : Prop := ∀ gc ∈ l, WellFormed gc.version
abbrev NoTilde (l : List GC) : Prop := ∀ gc ∈ l, gc.op ≠ .tilde

theorem parseAll_cases (rs : List (List Char)) :
    (rs.all (fun r => (patternMatch r).isSome) = false ∧ parseAll rs = .error invalidRequirement)
      ∨ ∃ l, parseAll rs = .ok l ∧ AllWF l ∧ (rs ≠ [] → l ≠ []) := by
  induction rs with
  | nil => exact .inr ⟨[], rfl, (fun _ h => nomatch h), fun h => absurd rfl h⟩
  | cons r rest ih =>
    rw [parseAll, List.all_cons]
    cases hp : patternMatch r with
    | none => exact .inl ⟨rfl, by rw [parse, hp]⟩
    | some g =>
      rw [parse_of_match r g hp]
      rcases ih with ⟨hn, h'⟩ | ⟨l, h', hl, _⟩
      · exact .inl ⟨hn, by rw [h']⟩
      · exact .inr ⟨_ :: l, by rw [h'], List.forall_mem_cons.mpr ⟨wf_of_run _ (patternMatch_run r g hp), hl⟩,
          fun _ => List.cons_ne_nil _ _⟩

theorem init_cases (rs : List (List Char)) :
    (rs.all (fun r => (patternMatch r).isSome) = false ∧ init rs = .error invalidRequirement)
      ∨ ∃ l, init rs = .ok l ∧ AllWF l ∧ l ≠ [] := by
  unfold init
  split
  · exact .inr ⟨_, rfl, by simp only [AllWF, List.mem_singleton, forall_eq]; decide,
      List.cons_ne_nil _ _⟩
  · rename_i hne
    rcases parseAll_cases rs with h | ⟨l, h, hl, hn⟩
    · exact .inl h
    · exact .inr ⟨l, h, hl, hn (fun h0 => hne (by rw [h0]; rfl))⟩

theorem fromString_ok (s : List Char) (gcs : List GC) (h : fromString s = .ok gcs) :
    AllWF gcs ∧ gcs ≠ [] := by
  rcases init_cases (splitRequirements s) with ⟨_, h'⟩ | ⟨l, h', hl, hne⟩
  · exact nomatch h'.symm.trans h
  · cases h'.symm.trans h
    exact ⟨hl, hne⟩

/-- what the loop of `simplify` puts in the place of a clause -/
def expand1 (gc : GC) : List GC :=
  if gc.op = .tilde then [⟨.ge, gc.version⟩, ⟨.lt, bumpD gc.version⟩] else [gc]

theorem expandTildes_eq (l : List GC) (hl : AllWF l) : expandTildes l = .ok (l.flatMap expand1) := by
  induction l with
  | nil => rfl
  | cons gc rest ih =>
    obtain ⟨hw, hr⟩ := List.forall_mem_cons.mp hl
    rw [expandTildes, ih hr, List.flatMap_cons, expand1]
    by_cases ht : gc.op = .tilde
    · obtain ⟨hi, hb⟩ := bump_ok gc.version hw
      simp only [ht, getTildeConstraints, tildeOfVersion_eq _ hi hw hb, bumpD, hb, bne_self_eq_false,
        beq_self_eq_true, Bool.false_eq_true, ↓reduceIte]
    · simp only [beq_iff_eq, ht, ↓reduceIte]

theorem expand_mem (l : List GC) (hl : AllWF l) :
    ∀ y ∈ l.flatMap expand1, WellFormed y.version ∧ y.op ≠ .tilde := by
  intro y hy
  obtain ⟨gc, hgc, hy⟩ := List.mem_flatMap.mp hy
  unfold expand1 at hy
  split at hy
  · obtain ⟨hi, hb⟩ := bump_ok gc.version (hl gc hgc)
    simp only [bumpD, hb, List.mem_cons, List.not_mem_nil, or_false] at hy
    rcases hy with rfl | rfl
    · exact ⟨hl gc hgc, nofun⟩
    · exact ⟨bump_wf _ _ hb, nofun⟩
  · rw [List.mem_singleton.mp hy]
    exact ⟨hl gc hgc, ‹_›⟩

theorem expand_ne_nil (l : List GC) (h : l ≠ []) : l.flatMap expand1 ≠ [] := by
  cases l with
  | nil => exact absurd rfl h
  | cons gc rest =>
    rw [List.flatMap_cons, expand1]
    split <;> exact fun h0 => nomatch h0

theorem dedupLoop_subset (seen l : List GC) : ∀ x ∈ dedupLoop seen l, x ∈ l := by
  induction l generalizing seen with
  | nil => intro x hx; simp [dedupLoop] at hx
  | cons gc rest ih =>
    intro x hx
    unfold dedupLoop at hx
    split at hx
    · exact List.mem_cons_of_mem _ (ih _ x hx)
    · rcases List.mem_cons.mp hx with hx | hx
      · subst hx; simp
      · exact List.mem_cons_of_mem _ (ih _ x hx)

theorem sortConstraints_subset (l : List GC) : ∀ x ∈ sortConstraints l, x ∈ l :=
  fun x hx => (List.mergeSort_perm l _).mem_iff.mp (dedupLoop_subset [] _ x hx)

theorem sortConstraints_ne_nil (l : List GC) (h : l ≠ []) : sortConstraints l ≠ [] := by
  unfold sortConstraints
  cases hm : l.mergeSort (fun a b => !gcLt b a) with
  | nil => exact absurd (hm ▸ List.mergeSort_perm l _).nil_eq.symm h
  | cons a r => simp [dedupLoop]

theorem cmpr?_of_ne_tilde (o : Op) (h : o ≠ .tilde) : ∃ c, o.cmpr? = some c := by
  cases o <;> first | exact absurd rfl h | exact ⟨_, rfl⟩

theorem consOf_eq (l : List GC) (hw : AllWF l) (hn : NoTilde l) :
    consOf l = .ok (l.filterMap (fun gc => gc.op.cmpr?.map (fun c => Con.mk c (Gem.str gc.version)))) := by
  induction l with
  | nil => rfl
  | cons gc rest ih =>
    obtain ⟨hw1, hw2⟩ := List.forall_mem_cons.mp hw
    obtain ⟨hn1, hn2⟩ := List.forall_mem_cons.mp hn
    obtain ⟨c, hc⟩ := cmpr?_of_ne_tilde gc.op hn1
    simp only [consOf, conOf, str_roundtrip gc.version hw1, liftV, hc, ih hw2 hn2, List.filterMap_cons,
      Option.map_some]

theorem simplify_ok (l : List GC) (hl : AllWF l) :
    ∃ l', simplify l = .ok l' ∧ AllWF l' ∧ NoTilde l' := by
  have hmem : ∀ x ∈ initGC (sortConstraints (l.flatMap expand1)),
      x = defaultConstraint ∨ x ∈ l.flatMap expand1 := by
    intro x hx
    unfold initGC at hx
    split at hx
    · exact .inl (List.mem_singleton.mp hx)
    · exact .inr (sortConstraints_subset _ x hx)
  refine ⟨_, by rw [simplify, expandTildes_eq l hl], fun x hx => ?_, fun x hx => ?_⟩
  · rcases hmem x hx with rfl | h
    · decide
    · exact (expand_mem l hl x h).1
  · rcases hmem x hx with rfl | h
    · exact fun h => nomatch h
    · exact (expand_mem l hl x h).2

theorem simplify_eq (l : List GC) (hl : AllWF l) (hne : l ≠ []) :
    simplify l = .ok (sortConstraints (l.flatMap expand1)) := by
  rw [simplify, expandTildes_eq l hl]
  simp only [initGC, List.isEmpty_eq_false_iff.mpr (sortConstraints_ne_nil _ (expand_ne_nil l hne)),
    Bool.false_eq_true, ↓reduceIte]

theorem fromNative_eq (s : List Char) (gcs : List GC) (h : fromString s = .ok gcs) :
    fromNative s = .ok ((sortConstraints (gcs.flatMap expand1)).filterMap
      (fun gc => gc.op.cmpr?.map (fun c => Con.mk c (Gem.str gc.version)))) := by
  obtain ⟨hw, hne⟩ := fromString_ok s gcs h
  simp only [fromNative, h, simplify_eq gcs hw hne]
  have hm := fun y hy => expand_mem gcs hw y (sortConstraints_subset _ y hy)
  exact consOf_eq _ (fun y hy => (hm y hy).1) (fun y hy => (hm y hy).2)

theorem fromNative_cases (s : List Char) :
    (∃ cs, fromNative s = .ok cs) ∨
      ((splitRequirements s).all (fun r => (patternMatch r).isSome) = false
        ∧ fromNative s = .error invalidRequirement) := by
  rcases init_cases (splitRequirements s) with ⟨hn, h⟩ | ⟨l, h, _⟩
  · exact .inr ⟨hn, by rw [fromNative, fromString, h]⟩
  · exact .inl ⟨_, fromNative_eq s l h⟩

/-- C16, the shape of every outcome: `from_native` returns, or the requirement text is rejected by
`GemRequirement.parse` with `InvalidRequirementError`.  No `KeyError` (`~>` is gone after `simplify`),
`IndexError` (`bump`), `InvalidVersion`, `InvalidVersionError`, `ValueError`, `AssertionError` can
escape. -/
theorem gem_native_declared (s : List Char) :
    (∃ cs, fromNative s = .ok cs) ∨ fromNative s = .error invalidRequirement :=
  (fromNative_cases s).imp_right And.right

/-- the one exception class that escapes is NOT a declared one: `InvalidRequirementError`
derives from `AttributeError`, not from `ValueError` / `InvalidVersionRange` -/
theorem gem_native_declared_counterexample :
    fromNative "abc".toList = .error (.other "InvalidRequirementError")
    ∧ fromNative [] = .error (.other "InvalidRequirementError")
    ∧ fromNative "1.0 2.0".toList = .error (.other "InvalidRequirementError")
    ∧ (TErr.other "InvalidRequirementError").declared = false :=
  ⟨by rfl, by rfl, by rfl, rfl⟩

/-- C16 holds where every comma-separated item matches `PATTERN` -/
theorem gem_native_declared_partial (s : List Char)
    (h : (splitRequirements s).all (fun r => (patternMatch r).isSome) = true) :
    ∃ cs, fromNative s = .ok cs :=
  (fromNative_cases s).resolve_right (fun h' => by rw [h] at h'; exact nomatch h'.1)

example : (splitRequirements ">= 1.0, < 2".toList).all (fun r => (patternMatch r).isSome) = true := by
  decide +kernel

/-! ### the in-repo matcher `satisfied_by` is the RubyGems matcher -/

theorem compareOp_eq (op : Op) (x v : Raw) (hv : WellFormed v) :
    compareOp op x v = .ok (opHolds op x v) := by
  have L := valOps_lawful
  cases op
  case tilde =>
    obtain ⟨b, hb⟩ := bump_ok v hv
    obtain ⟨r, hr⟩ := release_ok x
    simp only [compareOp, tildeComparator, opHolds, releaseD, bumpD, hb, hr, liftV, L.ge, L.lt]
    cases vercmp x v <;> simp
  all_goals simp only [compareOp, opHolds, L.eq, L.ne, L.gt, L.lt, L.ge, L.le]

theorem satLoop_eq (cs : List GC) (hw : AllWF cs) (x : Raw) : satLoop x cs = .ok (satSpec cs x) := by
  induction cs with
  | nil => rfl
  | cons gc rest ih =>
    obtain ⟨hw1, hw2⟩ := List.forall_mem_cons.mp hw
    simp only [satLoop, compareOp_eq gc.op x gc.version hw1, satSpec, List.all_cons]
    cases opHolds gc.op x gc.version
    · rfl
    · exact ih hw2

/-- `satSpec` is the conjunction over `Gem::Requirement::OPS`; the model of `satisfied_by` is tied to
the code by the correspondence -/
theorem gem_satisfied_by_spec (cs : List GC) (hne : cs ≠ []) (hw : AllWF cs) (x : Raw) :
    satisfiedBy cs x = .ok (satSpec cs x) := by
  rw [satisfiedBy, List.isEmpty_eq_false_iff.mpr hne, if_neg Bool.false_ne_true, satLoop_eq cs hw x]

/-! ### per-operator soundness: a plain clause means its vers constraint -/

theorem gem_native_sound_op (gc : GC) (c : Con Raw) (h : gc.con? = some c) (x : Raw) :
    Con.holds vercmp x c = opHolds gc.op x gc.version := by
  obtain ⟨op, v⟩ := gc
  cases op <;> simp [GC.con?, Op.cmpr?] at h <;> subst h <;> simp [Con.holds, Cmpr.holds, opHolds]

/-- for a RELEASE probe `x` (and EVERY well-formed `v`, prereleases included) `~> v` holds iff both
produced bounds hold -/
theorem gem_tilde_sound_release (v : Raw) (hv : WellFormed v)
    (x : Raw) (hx : isPrerelease x = false) :
    ∃ hi, tildeOfVersion v = .ok [⟨.ge, v⟩, ⟨.lt, hi⟩] ∧
      opHolds .tilde x v = (Con.holds vercmp x (.mk .ge v) && Con.holds vercmp x (.mk .lt hi)) := by
  obtain ⟨hi, hb⟩ := bump_ok v hv
  refine ⟨hi, tildeOfVersion_eq v hi hv hb, ?_⟩
  simp only [opHolds, releaseD, bumpD, hb, release_self x hx, Con.holds, Cmpr.holds]

/-- for EVERY probe (prereleases included) what RubyGems' `~>` accepts lies in the produced range; the
converse fails only for prereleases of versions at or above the upper bound (counterexample below) -/
theorem gem_tilde_sound_subset (v : Raw) (hv : WellFormed v) (x : Raw) :
    ∃ hi, tildeOfVersion v = .ok [⟨.ge, v⟩, ⟨.lt, hi⟩] ∧
      (opHolds .tilde x v = true →
        (Con.holds vercmp x (.mk .ge v) && Con.holds vercmp x (.mk .lt hi)) = true) := by
  obtain ⟨hi, hb⟩ := bump_ok v hv
  refine ⟨hi, tildeOfVersion_eq v hi hv hb, ?_⟩
  obtain ⟨rx, hrx⟩ := release_ok x
  have hle := vercmp_release x rx hrx
  simp only [opHolds, releaseD, bumpD, hb, hrx, Con.holds, Cmpr.holds, Bool.and_eq_true,
    beq_iff_eq]
  rintro ⟨h1, h2⟩
  exact ⟨h1, TransCmp.lt_of_isLE_of_lt (Ordering.isLE_iff_ne_gt.mpr hle) h2⟩

/-- defect / semantic gap (C18): `~> 1.0` does not accept the prerelease `2.a` of the upper
bound (RubyGems compares `version.release`), but the produced range `>=1.0|<2` contains it -/
theorem gem_tilde_upper_prerelease_counterexample :
    satisfiedBy [⟨.tilde, ⟨"1.0".toList⟩⟩] ⟨"2.a".toList⟩ = .ok false
    ∧ tildeOfVersion ⟨"1.0".toList⟩ = .ok [⟨.ge, ⟨"1.0".toList⟩⟩, ⟨.lt, ⟨"2".toList⟩⟩]
    ∧ Con.holds vercmp ⟨"2.a".toList⟩ (.mk .ge ⟨"1.0".toList⟩) = true
    ∧ Con.holds vercmp ⟨"2.a".toList⟩ (.mk .lt ⟨"2".toList⟩) = true := by
  decide +kernel

/-! ### Layer B: on the fragment, the interval reading is the conjunction (RubyGems: all clauses apply) -/

section Frag
variable {V : Type}

/-- the fragment: besides exclusions, nothing, or one `=`, or one bound, or a lower bound followed
by an upper bound -/
def Frag (cs : List (Con V)) : Prop :=
  match cs.filter (fun c => !c.isNe) with
  | [] => True
  | [c] => c.isEq = true ∨ c.isBound = true
  | [lo, hi] => lo.isLower = true ∧ hi.isUpper = true
  | _ => False

theorem holds_of_isNe (cmp : V → V → Ordering) (x : V) {c : Con V} (h : c.isNe = true) :
    c.holds cmp x = !c.at cmp x := by
  cases c with
  | star => cases h
  | mk k v => cases k <;> first | rfl | cases h

theorem holds_of_isEq (cmp : V → V → Ordering) (x : V) {c : Con V} (h : c.isEq = true) :
    c.holds cmp x = c.at cmp x := by
  cases c with
  | star => cases h
  | mk k v => cases k <;> first | rfl | cases h

theorem all_holds_split (cmp : V → V → Ordering) (x : V) (cs : List (Con V)) :
    cs.all (fun c => c.holds cmp x) =
      (!cs.any (fun c => c.isNe && c.at cmp x) && (cs.filter fun c => !c.isNe).all (fun c => c.holds cmp x)) := by
  induction cs with
  | nil => rfl
  | cons c r ih =>
    rw [List.all_cons, List.any_cons, List.filter_cons, ih]
    cases hc : c.isNe
    · simp only [Bool.false_and, Bool.false_or, Bool.not_false, ↓reduceIte, List.all_cons,
        Bool.and_left_comm]
    · simp only [holds_of_isNe cmp x hc, Bool.true_and, Bool.not_or, Bool.not_true, Bool.false_eq_true,
        ↓reduceIte, Bool.and_assoc]

theorem filter_nonNe (p : Con V → Bool) (hp : ∀ c, c.isNe = true → p c = false) (cs : List (Con V)) :
    cs.filter p = (cs.filter fun c => !c.isNe).filter p ∧ cs.any p = (cs.filter fun c => !c.isNe).any p := by
  have h : ∀ c : Con V, (!c.isNe && p c) = p c := fun c => by
    cases hc : c.isNe
    · rfl
    · rw [hp c hc]; rfl
  simp only [List.filter_filter, List.any_filter, Bool.and_comm (p _), h, and_self]

theorem denote_eq_all_of_frag (cmp : V → V → Ordering) (cs : List (Con V)) (x : V)
    (hne : cs ≠ []) (hf : Frag cs) :
    denote cmp cs x = cs.all (fun c => c.holds cmp x) := by
  have hstar : cs ≠ [.star] := fun h => by
    rw [h] at hf
    exact hf.elim nofun nofun
  rw [denote_formula cs hstar, List.isEmpty_eq_false_iff.mpr hne, if_neg Bool.false_ne_true]
  by_cases hall : cs.all Con.isNe = true
  · rw [if_pos hall]
    exact all_congr_mem fun c hc => (holds_of_isNe cmp x (List.all_eq_true.mp hall c hc)).symm
  · -- both sides are "no exclusion is hit" and a statement about the other members, `r`
    rw [if_neg hall, all_holds_split,
      (filter_nonNe (fun c => c.isEq && c.at cmp x)
        (fun c h => by rw [Con.not_isEq_of_isNe h]; rfl) cs).2,
      (filter_nonNe Con.isBound (fun _ => Con.not_isBound_of_isNe) cs).1]
    have hr : (cs.filter fun c => !c.isNe) ≠ [] := fun h0 =>
      hall (List.all_eq_true.mpr fun c hc => by simpa using List.filter_eq_nil_iff.mp h0 c hc)
    unfold Frag at hf
    generalize cs.filter (fun c => !c.isNe) = r at hf hr
    suffices hmain : (if r.any (fun c => c.isEq && c.at cmp x) = true then true
        else inIntervals cmp x (r.filter Con.isBound)) = r.all fun c => c.holds cmp x by
      cases cs.any (fun c => c.isNe && c.at cmp x)
      · rw [Bool.not_false, Bool.true_and, if_neg Bool.false_ne_true]; exact hmain
      · rfl
    match r, hf with
    | [], _ => exact absurd rfl hr
    | [c], hc =>
      rw [List.all_cons, List.all_nil, Bool.and_true, List.any_cons, List.any_nil, Bool.or_false,
        List.filter_cons]
      rcases hc with he | hb
      · -- one `=`: no bound is left, and the point test is what `=` means (`holds_of_isEq`)
        rw [he, Bool.true_and, Con.not_isBound_of_isEq he, if_neg Bool.false_ne_true, List.filter_nil,
          inIntervals, holds_of_isEq cmp x he]
        cases c.at cmp x <;> rfl
      · -- one bound: no `=` to hit, and a single bound is its own interval (`inIntervals_single`)
        rw [Con.not_isEq_of_isBound hb, Bool.false_and, if_neg Bool.false_ne_true, if_pos hb,
          List.filter_nil, inIntervals_single x c hb]
    | [lo, hi], ⟨hl, hu⟩ =>
      -- a lower and an upper bound: no `=` to hit; both pass the filter; and since `lo` is not an
      -- upper bound `inIntervals` reads the two as one pair
      have hbl : lo.isBound = true := Con.isBound_iff.mpr (.inr hl)
      have hbu : hi.isBound = true := Con.isBound_iff.mpr (.inl hu)
      simp only [List.any_cons, List.any_nil, Con.not_isEq_of_isBound hbl, Con.not_isEq_of_isBound hbu,
        Bool.false_and, Bool.or_false, Bool.false_eq_true, ↓reduceIte]
      rw [List.filter_cons_of_pos hbl, List.filter_cons_of_pos hbu, List.filter_nil]
      simp only [inIntervals, Con.not_isUpper_of_isLower hl, Bool.false_eq_true, ↓reduceIte, inPairs,
        Bool.or_false, List.all_cons, List.all_nil, Bool.and_true]
    | _ :: _ :: _ :: _, hc => exact hc.elim

end Frag

/-! ### the produced range means what `satisfied_by` decides -/

theorem opHolds_congr (a b : GC) (x : Raw) (hb : b.op ≠ .tilde) (h : gcEq a b = true) :
    opHolds a.op x a.version = opHolds b.op x b.version := by
  simp only [gcEq, Bool.and_eq_true, beq_iff_eq] at h
  obtain ⟨hop, hv⟩ := h
  have hv' : vercmp a.version b.version = .eq := by
    rw [valOps_lawful.eq] at hv; exact eq_of_beq hv
  have hc : vercmp x a.version = vercmp x b.version := TransCmp.congr_right hv'
  rw [hop]
  cases ho : b.op <;> simp only [opHolds, hc]
  exact absurd ho hb

/-- a clause equal to one already seen holds whenever the seen ones do -/
theorem dedupLoop_satSpec (x : Raw) (seen l : List GC) (hn : NoTilde l)
    (hs : satSpec seen x = true) : satSpec (dedupLoop seen l) x = satSpec l x := by
  induction l generalizing seen with
  | nil => rfl
  | cons gc rest ih =>
    obtain ⟨hgc, hn'⟩ := List.forall_mem_cons.mp hn
    unfold dedupLoop
    split
    · rename_i hany
      obtain ⟨c, hc, hceq⟩ := List.any_eq_true.mp hany
      rw [ih seen hn' hs, satSpec, satSpec, List.all_cons, ← opHolds_congr c gc x hgc hceq,
        List.all_eq_true.mp hs c hc, Bool.true_and]
    · rw [satSpec, satSpec, List.all_cons, List.all_cons]
      cases hg : opHolds gc.op x gc.version
      · rfl
      · exact congrArg _ (ih (seen ++ [gc]) hn' (by
          rw [satSpec, List.all_append, List.all_cons, hg]; exact (Bool.and_true _).trans hs))

theorem sortConstraints_satSpec (l : List GC) (hn : NoTilde l) (x : Raw) :
    satSpec (sortConstraints l) x = satSpec l x := by
  have hp := List.mergeSort_perm l (fun a b => !gcLt b a)
  rw [sortConstraints, dedupLoop_satSpec x [] _ (fun y hy => hn y (hp.mem_iff.mp hy)) rfl]
  exact hp.all_eq

/-- if there is a `~>` clause the probe is a release -/
abbrev TildeOK (l : List GC) (x : Raw) : Prop :=
  ∀ gc ∈ l, gc.op = .tilde → isPrerelease x = false

theorem expand_satSpec (l : List GC) (hw : AllWF l) (x : Raw) (ht : TildeOK l x) :
    satSpec (l.flatMap expand1) x = satSpec l x := by
  rw [satSpec, List.all_flatMap]
  refine all_congr_mem fun gc hgc => ?_
  unfold expand1
  split
  · rename_i hti
    obtain ⟨hi, hb⟩ := bump_ok gc.version (hw gc hgc)
    simp only [List.all_cons, List.all_nil, Bool.and_true, hti, opHolds, releaseD, bumpD, hb,
      release_self x (ht gc hgc hti)]
  · rw [List.all_cons, List.all_nil, Bool.and_true]

theorem con?_of_ne_tilde (gc : GC) (h : gc.op ≠ .tilde) :
    ∃ c, gc.con? = some (.mk c gc.version) := by
  obtain ⟨c, hc⟩ := cmpr?_of_ne_tilde gc.op h
  exact ⟨c, by rw [GC.con?, hc]; rfl⟩

theorem cons_all_eq_satSpec (l : List GC) (hn : NoTilde l) (x : Raw) :
    (l.filterMap GC.con?).all (fun c => c.holds vercmp x) = satSpec l x := by
  rw [List.all_filterMap]
  refine all_congr_mem fun gc hgc => ?_
  obtain ⟨c, hc⟩ := con?_of_ne_tilde gc (hn gc hgc)
  rw [hc]
  exact gem_native_sound_op gc _ hc x

/-- C06 (gem part): let `gcs` be the parsed requirement and `gr` its simplification (what `from_native`
turns into the range).  If the probe `x` is a release whenever the requirement has a `~>` clause, and
the produced constraints are in the fragment, then membership of `x` in the interval reading of the
produced constraints over `Gem.vercmp` is exactly `GemRequirement.satisfied_by(x)`. -/
theorem gem_native_sound (s : List Char) (gcs gr : List GC)
    (h1 : fromString s = .ok gcs) (h2 : simplify gcs = .ok gr) (x : Raw) (ht : TildeOK gcs x)
    (hf : Frag (gr.filterMap GC.con?)) :
    satisfiedBy gcs x = .ok (denote vercmp (gr.filterMap GC.con?) x)
    ∧ fromNative s = .ok (gr.filterMap
        (fun gc => gc.op.cmpr?.map (fun c => Con.mk c (Gem.str gc.version)))) := by
  obtain ⟨hw, hne⟩ := fromString_ok s gcs h1
  rw [simplify_eq gcs hw hne, Except.ok.injEq] at h2
  subst h2
  generalize he : gcs.flatMap expand1 = e at hf ⊢
  have hnt : NoTilde e := fun y hy => (expand_mem gcs hw y (he ▸ hy)).2
  have hnr : NoTilde (sortConstraints e) := fun y hy => hnt y (sortConstraints_subset _ y hy)
  refine ⟨?_, he ▸ fromNative_eq s gcs h1⟩
  have hcne : (sortConstraints e).filterMap GC.con? ≠ [] := by
    obtain ⟨g, hg⟩ := List.exists_mem_of_ne_nil _ (sortConstraints_ne_nil _ (he ▸ expand_ne_nil gcs hne))
    obtain ⟨c, hc⟩ := con?_of_ne_tilde g (hnr g hg)
    exact List.ne_nil_of_mem (List.mem_filterMap.mpr ⟨g, hg, hc⟩)
  rw [gem_satisfied_by_spec gcs hne hw x, denote_eq_all_of_frag vercmp _ x hcne hf,
    cons_all_eq_satSpec _ hnr x, sortConstraints_satSpec _ hnt x, ← he, expand_satSpec gcs hw x ht]

/-! ### the fragment hypothesis is met by the basic shapes -/

theorem sortConstraints_single (gc : GC) : sortConstraints [gc] = [gc] := by
  simp [sortConstraints, dedupLoop]

theorem sortConstraints_pair (a b : GC) (h1 : gcLt b a = false) (h2 : gcEq a b = false) :
    sortConstraints [a, b] = [a, b] := by
  simp [sortConstraints, List.mergeSort, List.MergeSort.Internal.splitInTwo, h1, dedupLoop, h2]

theorem gem_native_sound_single (gc : GC) (hn : gc.op ≠ .tilde) (x : Raw) :
    simplify [gc] = .ok [gc] ∧
    denote vercmp ([gc].filterMap GC.con?) x = opHolds gc.op x gc.version := by
  constructor
  · have : expandTildes [gc] = .ok [gc] := by simp [expandTildes, hn]
    simp [simplify, this, sortConstraints_single, initGC]
  · obtain ⟨c, hc⟩ := con?_of_ne_tilde gc hn
    rw [List.filterMap_cons, hc, List.filterMap_nil, denote_single, gem_native_sound_op gc _ hc x]

theorem gem_native_sound_tilde (v : Raw) (hv : WellFormed v)
    (x : Raw) (hx : isPrerelease x = false) :
    ∃ hi, simplify [⟨.tilde, v⟩] = .ok [⟨.ge, v⟩, ⟨.lt, hi⟩] ∧
      denote vercmp [.mk .ge v, .mk .lt hi] x = opHolds .tilde x v := by
  obtain ⟨hi, hb⟩ := bump_ok v hv
  refine ⟨hi, ?_, ?_⟩
  · have hgt : vercmp hi v = .gt := OrientedCmp.gt_of_lt (vercmp_bump v hi hb)
    have L := valOps_lawful
    have h1 : gcLt ⟨.lt, hi⟩ ⟨.ge, v⟩ = false := by simp [gcLt, L.eq, L.lt, hgt]
    rw [simplify_eq _ (by simpa [AllWF] using hv) (List.cons_ne_nil _ _)]
    simp only [List.flatMap_cons, List.flatMap_nil, List.append_nil, expand1, bumpD, hb, ↓reduceIte,
      sortConstraints_pair _ _ h1 rfl]
  · rw [denote_eq_all_of_frag vercmp [.mk .ge v, .mk .lt hi] x (List.cons_ne_nil _ _) ⟨rfl, rfl⟩]
    simp only [List.all_cons, List.all_nil, Bool.and_true, Con.holds, Cmpr.holds, opHolds, releaseD,
      bumpD, hb, release_self x hx]

/-! ### exactness of the text layer (C15/C06): every spelling parses to the stated clauses -/

section Exact

abbrev Hard (c : Char) : Prop := isSp c = false ∧ isParen c = false ∧ c ≠ ','

/-- stripping white space or parentheses stops at a text that begins and ends with a hard character -/
def Solid (k : List Char) : Prop :=
  (∃ x t, k = x :: t ∧ Hard x) ∧ ∃ i l, k = i ++ [l] ∧ Hard l

theorem Solid.append {k k' : List Char} (h : Solid k) (h' : Solid k') (m : List Char) :
    Solid (k ++ m ++ k') := by
  obtain ⟨⟨x, t, hk, hx⟩, _⟩ := h
  obtain ⟨_, ⟨i, l, hk', hl⟩⟩ := h'
  exact ⟨⟨x, t ++ m ++ k', by rw [hk]; rfl, hx⟩, ⟨k ++ m ++ i, l, by rw [hk', ← List.append_assoc], hl⟩⟩

theorem solid_of_hard (k : List Char) (hne : k ≠ []) (h : ∀ c ∈ k, Hard c) : Solid k := by
  obtain ⟨i, l, hil⟩ := exists_concat k hne
  refine ⟨?_, i, l, hil, h l (by simp [hil])⟩
  cases k with
  | nil => exact absurd rfl hne
  | cons x t => exact ⟨x, t, rfl, h x (List.mem_cons_self ..)⟩

theorem dropWhile_hard (q : Char → Bool) (A : List Char) (x : Char) (R : List Char) (hq : q x = false) :
    (A ++ x :: R).dropWhile q = A.dropWhile q ++ x :: R := by
  induction A with
  | nil => exact List.dropWhile_cons_of_neg (by simp [hq])
  | cons a A ih =>
    rw [List.cons_append, List.dropWhile_cons, List.dropWhile_cons]
    cases q a
    · rfl
    · exact ih

theorem stripSet_around (q : Char → Bool) (hq : ∀ c, Hard c → q c = false)
    (A K Z : List Char) (hK : Solid K) :
    stripSet q (A ++ K ++ Z) = A.dropWhile q ++ K ++ (Z.reverse.dropWhile q).reverse := by
  obtain ⟨⟨x, t, hk, hx⟩, ⟨i, l, hk', hl⟩⟩ := hK
  have e1 : (A ++ K ++ Z).dropWhile q = A.dropWhile q ++ K ++ Z := by
    rw [hk, List.append_assoc, List.cons_append, dropWhile_hard q A x _ (hq x hx), List.append_assoc]; rfl
  have e2 : (A.dropWhile q ++ K ++ Z).reverse.dropWhile q
      = (Z.reverse.dropWhile q) ++ (A.dropWhile q ++ K).reverse := by
    rw [hk', List.reverse_append, ← List.append_assoc, List.reverse_append (as := _ ++ i),
      List.reverse_singleton, List.singleton_append, dropWhile_hard q _ l _ (hq l hl)]
  rw [stripSet, e1, e2, List.reverse_append, List.reverse_reverse]

/-- of the leading part of a requirement text (spaces, parentheses, spaces) `strip()` then
`strip("()")` leave only spaces -/
theorem lead_trim (pre lp w : List Char) (hpre : allSp pre = true) (hlp : lp.all isParen = true)
    (hw : allSp w = true) : allSp (((pre ++ lp ++ w).dropWhile isSp).dropWhile isParen) = true := by
  rw [List.append_assoc, List.dropWhile_append_of_pos (List.all_eq_true.mp hpre)]
  cases lp with
  | nil => rw [List.nil_append, Str.dropWhile_eq_nil_iff.mpr (List.all_eq_true.mp hw)]; rfl
  | cons c lp' =>
    have hs : ¬ isSp c = true := by
      have hc := List.all_eq_true.mp hlp c List.mem_cons_self
      simp only [isParen, Bool.or_eq_true, beq_iff_eq] at hc
      rcases hc with rfl | rfl <;> decide
    rw [List.cons_append, List.dropWhile_cons_of_neg hs, ← List.cons_append,
      List.dropWhile_append_of_pos (List.all_eq_true.mp hlp)]
    simp only [allSp, List.all_eq_true] at hw ⊢
    exact fun x hx => hw x ((List.dropWhile_sublist _).mem hx)

/-- the part of a clause that survives `strip`, and what precedes it -/
def Clause.core (c : Clause) : List Char :=
  match c.op with
  | some o => o.text ++ c.w2 ++ c.ver
  | none => c.ver

def Clause.lead (c : Clause) : List Char :=
  match c.op with
  | some _ => c.w1
  | none => c.w1 ++ c.w2

theorem Clause.text_eq (c : Clause) : c.text = c.lead ++ c.core ++ c.w3 := by
  cases h : c.op <;> simp [Clause.text, Clause.lead, Clause.core, opText, h]

theorem ok_parts (c : Clause) (h : c.ok = true) :
    allSp c.w1 = true ∧ allSp c.w2 = true ∧ allSp c.w3 = true ∧ run .d0 c.ver = true := by
  simp only [Clause.ok, Bool.and_eq_true] at h
  exact ⟨h.1.1.1, h.1.1.2, h.1.2, h.2⟩

theorem lead_sp (c : Clause) (h : c.ok = true) : allSp c.lead = true := by
  obtain ⟨h1, h2, _, _⟩ := ok_parts c h
  cases ho : c.op <;> simp_all [Clause.lead, allSp]

theorem verCh_hard (c : Char) (h : isVerCh c = true) : Hard c := by
  refine ⟨verCh_not_space c h, ?_, ?_⟩
  · simp only [isParen, Bool.or_eq_false_iff, beq_eq_false_iff_ne]
    constructor <;> (intro hc; subst hc; exact absurd h (by decide))
  · intro hc; subst hc; exact absurd h (by decide)

theorem op_text_hard (o : Op) : ∀ c ∈ o.text, Hard c ∧ isDig c = false := by
  cases o <;> decide

theorem sp_no_comma (w : List Char) (h : allSp w = true) : ',' ∉ w :=
  fun hc => absurd (List.all_eq_true.mp h _ hc) (by decide)

theorem core_shape (c : Clause) (h : c.ok = true) : Solid c.core ∧ ',' ∉ c.core := by
  obtain ⟨_, h2, _, hr⟩ := ok_parts c h
  have hv : ∀ x ∈ c.ver, Hard x := fun x hx => verCh_hard x (run_verCh _ _ hr x hx)
  have sv : Solid c.ver := solid_of_hard _ (fun h0 => by rw [h0] at hr; cases hr) hv
  unfold Clause.core
  cases c.op with
  | none => exact ⟨sv, fun hx => (hv _ hx).2.2 rfl⟩
  | some o =>
    refine ⟨(solid_of_hard o.text (by cases o <;> exact List.cons_ne_nil _ _)
      (fun x hx => (op_text_hard o x hx).1)).append sv _, ?_⟩
    simp only [List.mem_append, not_or]
    exact ⟨⟨fun hx => (op_text_hard o _ hx).1.2.2 rfl, sp_no_comma _ h2⟩,
      fun hx => (hv _ hx).2.2 rfl⟩

theorem strip_padded (a k z : List Char) (ha : allSp a = true) (hz : allSp z = true) (hk : Solid k) :
    GP.strip (a ++ k ++ z) = k := by
  rw [show GP.strip = stripSet isSp from rfl, stripSet_around isSp (fun _ h => h.1) a k z hk,
    Str.dropWhile_eq_nil_iff.mpr (List.all_eq_true.mp ha),
    Str.dropWhile_eq_nil_iff.mpr (by simpa [allSp] using hz)]
  exact List.append_nil _

theorem splitOn_eq (sep : Char) (s : List Char) : splitOn sep s = Str.splitChar sep s := by
  induction s with
  | nil => rfl
  | cons c cs ih =>
    simp only [splitOn, Str.splitChar, ih, beq_iff_eq]
    cases Str.splitChar sep cs <;> rfl

theorem piece (c : Clause) (h : c.ok = true) (a z : List Char) (ha : allSp a = true)
    (hz : allSp z = true) : ',' ∉ a ++ c.core ++ z ∧ GP.strip (a ++ c.core ++ z) = c.core := by
  refine ⟨?_, strip_padded a c.core z ha hz (core_shape c h).1⟩
  simp only [List.mem_append, not_or]
  exact ⟨⟨sp_no_comma a ha, (core_shape c h).2⟩, sp_no_comma z hz⟩

/-- the joined clause texts are white space, a solid kernel, white space; the kernel between ANY
white space (what the induction needs) splits at the commas into pieces that strip to the cores -/
theorem joinComma_kernel : ∀ cs : List Clause, cs ≠ [] → (∀ c ∈ cs, c.ok = true) →
    ∃ fl K lw, joinComma (cs.map Clause.text) = fl ++ K ++ lw ∧ allSp fl = true ∧ allSp lw = true
      ∧ Solid K ∧ ∀ a z, allSp a = true → allSp z = true →
        (Str.splitChar ',' (a ++ K ++ z)).map GP.strip = cs.map Clause.core
  | [], h, _ => absurd rfl h
  | [c], _, hok => by
    have hc := hok c (by simp)
    refine ⟨c.lead, c.core, c.w3, c.text_eq, lead_sp c hc, (ok_parts c hc).2.2.1, (core_shape c hc).1,
      fun a z ha hz => ?_⟩
    obtain ⟨hno, hst⟩ := piece c hc a z ha hz
    rw [Str.splitChar_of_not_mem hno, List.map_cons, hst]
    rfl
  | c :: d :: ds, _, hok => by
    have hc := hok c (by simp)
    have hw3 := (ok_parts c hc).2.2.1
    obtain ⟨fl, K, lw, hj, hfl, hlw, hK, hsplit⟩ :=
      joinComma_kernel (d :: ds) (by simp) (fun x hx => hok x (List.mem_cons_of_mem _ hx))
    refine ⟨c.lead, c.core ++ (c.w3 ++ ',' :: fl) ++ K, lw, ?_, lead_sp c hc, hlw,
      (core_shape c hc).1.append hK _, fun a z ha hz => ?_⟩
    · simp only [List.map_cons, joinComma] at hj ⊢
      rw [hj, Clause.text_eq]
      simp only [List.append_assoc, List.cons_append]
    · obtain ⟨hno, hst⟩ := piece c hc a c.w3 ha hw3
      have e : a ++ (c.core ++ (c.w3 ++ ',' :: fl) ++ K) ++ z
          = (a ++ c.core ++ c.w3) ++ ',' :: (fl ++ K ++ z) := by
        simp only [List.append_assoc, List.cons_append]
      rw [e, Str.splitChar_append _ hno, List.map_cons, hsplit fl z hfl hz, hst]
      rfl

/-! the regex part: each core parses to its clause -/

theorem opText_prefix (g : Option Op) (o' : Op) :
    o'.text.isPrefixOf (opText g) = true → g = some o' ∨ opText g = o'.text ++ ['='] := by
  cases g with
  | none => cases o' <;> decide
  | some o => cases o <;> cases o' <;> decide

theorem matchWith_core (g : Option Op) (o' : Op) (w ver : List Char) (hw : allSp w = true)
    (hrun : run .d0 ver = true) :
    matchWith (opText g ++ w ++ ver) o' = if g = some o' then some ver else none := by
  rw [List.append_assoc]
  obtain ⟨d, t, hv, hd⟩ := run_d0_head ver hrun
  have hds : isSp d = false := alnum_not_space d (by rw [isAlnum, hd]; rfl)
  have hdrop : (w ++ ver).dropWhile isSp = ver := by
    rw [List.dropWhile_append_of_pos (List.all_eq_true.mp hw), hv]
    exact List.dropWhile_cons_of_neg (by simp [hds])
  by_cases hg : g = some o'
  · subst hg
    have hs : startsWith o'.text (o'.text ++ (w ++ ver)) = true :=
      List.isPrefixOf_iff_prefix.mpr (List.prefix_append ..)
    simp only [↓reduceIte, matchWith, opText, hs, List.drop_left, hdrop, hrun]
  · rw [if_neg hg, matchWith]
    split
    · rename_i hs
      -- what follows the operator text begins with a space or a digit, which no operator has
      obtain ⟨y, r, hr, hy⟩ : ∃ y r, w ++ ver = y :: r ∧ (isDig y = true ∨ isSp y = true) := by
        cases w with
        | nil => exact ⟨d, t, hv, .inl hd⟩
        | cons x w' =>
          exact ⟨x, w' ++ ver, rfl, .inr (List.all_eq_true.mp hw x List.mem_cons_self)⟩
      have hy' : y ∉ o'.text := fun hm => by
        have := op_text_hard o' y hm
        rcases hy with hy | hy
        · rw [this.2] at hy; cases hy
        · rw [this.1.1] at hy; cases hy
      rw [startsWith, hr, show o'.text.isPrefixOf (opText g ++ y :: r) = o'.text.isPrefixOf (opText g)
        from Str.startsWith_append_cons _ r hy'] at hs
      rcases opText_prefix g o' hs with h | h
      · exact absurd h hg
      · -- the operator is followed by `=`, which no version starts with
        rw [h, List.append_assoc, List.drop_left]
        rfl
    · rfl

theorem patternMatch_core (c : Clause) (h : c.ok = true) :
    patternMatch c.core = some (c.op, c.ver) := by
  obtain ⟨_, hw2, _, hr⟩ := ok_parts c h
  have hm : ∀ o', matchWith c.core o' = if c.op = some o' then some c.ver else none := by
    intro o'
    unfold Clause.core
    cases c.op with
    | none => exact matchWith_core none o' [] c.ver rfl hr
    | some o => exact matchWith_core (some o) o' c.w2 c.ver hw2 hr
  have hs : GP.strip c.core = c.core := by
    simpa using strip_padded [] c.core [] rfl rfl (core_shape c h).1
  unfold patternMatch
  simp only [hs, hm]
  cases ho : c.op with
  | none => simp only [Clause.core, ho, hr]; rfl
  | some o => cases o <;> rfl

theorem gem_parse_exact (c : Clause) (h : c.ok = true) : parse c.core = .ok c.gc :=
  parse_of_match _ _ (patternMatch_core c h)

theorem parseAll_cores (cs : List Clause) (hok : ∀ c ∈ cs, c.ok = true) :
    parseAll (cs.map Clause.core) = .ok (cs.map Clause.gc) := by
  induction cs with
  | nil => rfl
  | cons c r ih =>
    simp [parseAll, gem_parse_exact c (hok c (by simp)),
      ih (fun d hd => hok d (List.mem_cons_of_mem _ hd))]

/-- C15: for every non-empty list of admissible clauses and every spelling of it — white space
around, any run of parentheses, white space around each clause and between operator and version, `=`
optional — `GemRequirement.from_string` yields exactly the clauses, in order -/
theorem gem_fromString_exact (pre lp : List Char) (cs : List Clause) (rp post : List Char)
    (hne : cs ≠ []) (hok : ∀ c ∈ cs, c.ok = true) (hpre : allSp pre = true)
    (hpost : allSp post = true) (hlp : lp.all isParen = true) (hrp : rp.all isParen = true) :
    fromString (render pre lp cs rp post) = .ok (cs.map Clause.gc) := by
  obtain ⟨fl, K, lw, hj, hfl, hlw, hK, hsplit⟩ := joinComma_kernel cs hne hok
  -- the strips at the right-hand end are left strips of the reversed text, and reversed it reads
  -- `post`, `rp`, `lw`, each reversed: white space, parentheses, white space again
  have htrail : allSp (((lw ++ rp ++ post).reverse.dropWhile isSp).dropWhile isParen) = true := by
    rw [List.reverse_append, List.reverse_append, ← List.append_assoc]
    exact lead_trim post.reverse rp.reverse lw.reverse ((List.all_reverse ..).trans hpost)
      ((List.all_reverse ..).trans hrp) ((List.all_reverse ..).trans hlw)
  have e : render pre lp cs rp post = (pre ++ lp ++ fl) ++ K ++ (lw ++ rp ++ post) := by
    simp only [render, hj, List.append_assoc]
  -- neither `strip` nor `strip("()")` reaches into the kernel: the text splits into the cores
  have hsp : splitRequirements (render pre lp cs rp post) = cs.map Clause.core := by
    rw [splitRequirements, show (fun c : Char => c == '(' || c == ')') = isParen from rfl, e,
      show GP.strip = stripSet isSp from rfl, stripSet_around isSp (fun _ h => h.1) _ _ _ hK,
      stripSet_around isParen (fun _ h => h.2.1) _ _ _ hK, splitOn_eq]
    refine hsplit _ _ (lead_trim pre lp fl hpre hlp hfl) ?_
    rw [List.reverse_reverse, allSp, List.all_reverse]
    exact htrail
  rw [fromString, hsp, init, if_neg (by simpa using hne)]
  exact parseAll_cores cs hok

/-- C06: on every admissible spelling `from_native` returns the textual image of `sort_constraints` of
the clauses with every `~>` replaced by its two bounds -/
theorem gem_native_exact (pre lp : List Char) (cs : List Clause) (rp post : List Char)
    (hne : cs ≠ []) (hok : ∀ c ∈ cs, c.ok = true) (hpre : allSp pre = true)
    (hpost : allSp post = true) (hlp : lp.all isParen = true) (hrp : rp.all isParen = true) :
    ∃ e, expandTildes (cs.map Clause.gc) = .ok e ∧
      fromNative (render pre lp cs rp post) = .ok ((sortConstraints e).filterMap
        (fun gc => gc.op.cmpr?.map (fun c => Con.mk c (Gem.str gc.version)))) := by
  have h1 := gem_fromString_exact pre lp cs rp post hne hok hpre hpost hlp hrp
  exact ⟨_, expandTildes_eq _ (fromString_ok _ _ h1).1, fromNative_eq _ _ h1⟩

example : (Clause.mk (some .ge) "1.0.1".toList [' '] [' ', '\t'] []).ok = true := by decide +kernel

end Exact

end Univers.Text.GemReq
