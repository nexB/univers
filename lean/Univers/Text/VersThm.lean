/-
Layer C — THEOREMS about the vers text model (`Vers.lean`) against `VersSpec.lean`: the registry
tables and `split ∘ print` (C05), `fromString` on every spelling of an expression (C05, C13:
`fromString_exact`, from which the rest on spellings follows), what `fromString` raises (C16).
-/
import Univers.Text.VersSpec

namespace Univers.Text.Vers

open Univers.Text.Str

variable {mk : List Char → Except TErr (List Char)}

theorem comparators_known : ∀ p ∈ Gen.comparators, (cmprOfName p.2).isSome = true := by
  decide +kernel

theorem lookupComparator_star : lookupComparator ['*'] = some none := by decide +kernel

theorem cmprText_props : ∀ c ∈ Cmpr.all,
    lookupComparator c.text.toList = some (some c) ∧
    splitLoop comparatorTexts c.text.toList = (c.text.toList, []) ∧
    startsWith c.text.toList ['*'] = false ∧ c.text.toList ≠ [] ∧
    removeSpaces c.text.toList = c.text.toList ∧ '|' ∉ c.text.toList := by decide +kernel

theorem mem_cmprAll (c : Cmpr) : c ∈ Cmpr.all := by cases c <;> decide

theorem splitLoop_nil : splitLoop comparatorTexts [] = (['='], []) := by decide +kernel

theorem comparatorTexts_chars :
    ∀ k ∈ comparatorTexts, ∀ y ∈ k, comparatorChars.contains y = true := by decide +kernel

/-- C05: the registry maps each name to a range class that prints that name -/
theorem registry_sound : RegistrySound := by decide +kernel

/-- C05: every range class that prints a scheme name is registered under it (FIXED CODE:
`alpine` registered) -/
theorem registry_complete : RegistryComplete := by decide +kernel

/-- the `NoVersionClass` branch of `headerCore` is dead -/
theorem registry_versionClass : ∀ p ∈ Gen.registry, (versionClassOf p.2).isSome = true := by
  intro p hp
  obtain ⟨rc, hrc, hn, _⟩ := registry_sound p hp
  unfold versionClassOf
  cases hf : Gen.rangeClasses.find? (fun rc => rc.name == p.2) with
  | none => exact absurd (beq_iff_eq.mpr hn) (List.find?_eq_none.mp hf rc hrc)
  | some rc' =>
    exact (by decide +kernel : ∀ rc ∈ Gen.rangeClasses, rc.versionClass.isSome = true) rc'
      (List.mem_of_find?_eq_some hf)

theorem registry_keys_plain : ∀ p ∈ registryL, isAsciiRepr p.1 = true ∧
    ∀ c ∈ p.1, 97 ≤ c.toNat ∧ isSpace c = false ∧ c ≠ '/' := by decide +kernel

theorem registered_props {scheme : List Char} {vc : String} (h : Registered scheme vc) :
    isAsciiRepr scheme = true ∧ lower scheme = scheme ∧ removeSpaces scheme = scheme ∧
      '/' ∉ scheme := by
  obtain ⟨cls, h1, _⟩ := h
  obtain ⟨ha, hc⟩ := registry_keys_plain _ (Str.mem_of_lookup h1)
  exact ⟨ha, (List.map_congr_left fun c h => lowerChar_of_ge (hc c h).1).trans (List.map_id _),
    removeSpaces_eq_self_iff.mpr fun c h => (hc c h).2.1, fun h => (hc _ h).2.2 rfl⟩

def plainStart (v : List Char) : Prop :=
  ∀ x ∈ (removeSpaces v).head?, comparatorChars.contains x = false

theorem textSafe_props {v : List Char} (h : TextSafe v) :
    v ≠ [] ∧ removeSpaces v = v ∧ '|' ∉ v ∧ plainStart v := by
  cases v with
  | nil => cases h
  | cons x xs =>
    have h : ((x :: xs).all (fun c => !isSpace c && c != '|') &&
      !comparatorChars.contains x) = true := h
    simp only [Bool.and_eq_true, List.all_eq_true, Bool.not_eq_true', bne_iff_ne] at h
    have hs := removeSpaces_eq_self_iff.mpr fun c hc => (h.1 c hc).1
    refine ⟨List.cons_ne_nil _ _, hs, fun hm => (h.1 _ hm).2 rfl, ?_⟩
    rw [plainStart, hs]
    exact fun y hy => Option.some.inj hy ▸ h.2

theorem startsWith_star_append (a : List Char) {w : List Char} (hw : plainStart w) :
    startsWith (a ++ removeSpaces w) ['*'] = startsWith a ['*'] := by
  cases hr : removeSpaces w with
  | nil => rw [List.append_nil]
  | cons x b =>
    have hx : comparatorChars.contains x = false := by rw [plainStart, hr] at hw; exact hw x rfl
    exact startsWith_append_cons a b fun hm => by rw [List.mem_singleton.mp hm] at hx; cases hx

theorem splitLoop_append_cons {ks : List (List Char)} {x : Char} (a b : List Char)
    (hx : ∀ k ∈ ks, x ∉ k) (ha : startsWith a ['*'] = false) :
    splitLoop ks (a ++ x :: b) = ((splitLoop ks a).1, (splitLoop ks a).2 ++ x :: b) := by
  induction ks with
  | nil => rfl
  | cons k ks ih =>
    have hk : x ∉ k := hx k List.mem_cons_self
    rw [splitLoop, splitLoop, startsWith_append_cons a b hk]
    by_cases hs : startsWith a k = true
    · -- the `*` entry would drop the version text; by `ha` it does not match
      have hne : (k == ['*']) = false := beq_eq_false_iff_ne.mpr fun e => by
        rw [e, ha] at hs; cases hs
      simp only [hs, hne, if_true, Bool.false_eq_true, if_false, lstripSet_append_cons a b hk]
    · simp only [hs]
      exact ih fun k hk => hx k (List.mem_cons_of_mem _ hk)

theorem split_append {a w : List Char} (hs : removeSpaces a = a) (hw : plainStart w)
    (ha : startsWith a ['*'] = false) :
    split (a ++ w) =
      ((splitLoop comparatorTexts a).1, (splitLoop comparatorTexts a).2 ++ removeSpaces w) := by
  rw [split, removeSpaces_append, hs, startsWith_star_append a hw, ha, if_neg Bool.false_ne_true]
  cases hr : removeSpaces w with
  | nil => rw [List.append_nil, List.append_nil]
  | cons x b =>
    have hx : comparatorChars.contains x = false := by rw [plainStart, hr] at hw; exact hw x rfl
    refine splitLoop_append_cons a b (fun k hk hm => ?_) ha
    rw [comparatorTexts_chars k hk x hm] at hx; cases hx

theorem split_plain {w : List Char} (hw : plainStart w) : split w = (['='], removeSpaces w) :=
  (split_append (a := []) rfl hw rfl).trans (by rw [splitLoop_nil]; rfl)

theorem split_cmpr (c : Cmpr) {w : List Char} (hw : plainStart w) :
    split (c.text.toList ++ w) = (c.text.toList, removeSpaces w) := by
  obtain ⟨_, hl, hstar, _, hs, _⟩ := cmprText_props c (mem_cmprAll c)
  rw [split_append hs hw hstar, hl]; rfl

/-- C05 (`print` omits `=`) -/
theorem split_of_print (c : Cmpr) {v : List Char} (h : TextSafe v) :
    split (print c v) = (c.text.toList, v) := by
  obtain ⟨_, hs, _, hp⟩ := textSafe_props h
  cases c
  case eq => exact (split_plain hp).trans (congrArg (Prod.mk _) hs)
  all_goals exact (split_cmpr _ hp).trans (congrArg (Prod.mk _) hs)

theorem conFromString_star (mk : List Char → Except TErr (List Char)) :
    conFromString mk ['*'] = .ok .star := rfl

theorem conFromString_spelling {c : TCon} {t : List Char} (hs : ConSpelling c t)
    (hok : ConOk mk c) (ha : isAsciiRepr t = true) : conFromString mk t = .ok c := by
  cases hs with
  | star => exact conFromString_star mk
  | bare v =>
    obtain ⟨hne, hns, _, hp⟩ := textSafe_props hok.1
    have hk : lookupComparator ['='] = some (some .eq) := (cmprText_props .eq (mem_cmprAll _)).1
    simp only [conFromString, hns, ha, split_plain hp, hk, List.isEmpty_eq_false_iff.mpr hne,
      hok.2, Bool.not_true, Bool.false_eq_true, if_false]
  | explicit k v =>
    obtain ⟨hk, _, _, _, hks, _⟩ := cmprText_props k (mem_cmprAll k)
    obtain ⟨hne, hns, _, hp⟩ := textSafe_props hok.1
    simp only [conFromString, removeSpaces_append, hks, hns, ha, split_cmpr k hp, hk,
      List.isEmpty_eq_false_iff.mpr hne, hok.2, Bool.not_true, Bool.false_eq_true, if_false]

theorem spelling_props {c : TCon} {t : List Char} (hs : ConSpelling c t) (hok : ConOk mk c) :
    (t ≠ [] ∧ removeSpaces t = t ∧ '|' ∉ t) ∧ (c.isStar = false → startsWith t ['*'] = false) := by
  cases hs with
  | star => exact ⟨by decide, fun h => nomatch h⟩
  | bare v =>
    obtain ⟨hne, hns, hb, hp⟩ := textSafe_props hok.1
    exact ⟨⟨hne, hns, hb⟩, fun _ => by rw [← hns]; exact startsWith_star_append [] hp⟩
  | explicit k v =>
    obtain ⟨_, _, hstar, hne, hks, hkb⟩ := cmprText_props k (mem_cmprAll k)
    obtain ⟨_, hns, hb, hp⟩ := textSafe_props hok.1
    exact ⟨⟨fun h => hne (List.append_eq_nil_iff.mp h).1, by rw [removeSpaces_append, hks, hns],
      fun hm => (List.mem_append.mp hm).elim hkb hb⟩,
      fun _ => by rw [← hns, startsWith_star_append _ hp, hstar]⟩

theorem conLoop_spelled {items : List TCon} {texts : List (List Char)}
    (hs : Spelled items texts) (hok : ∀ c ∈ items, ConOk mk c)
    (hns : items.all (fun c => !c.isStar) = true)
    (ha : ∀ t ∈ texts, isAsciiRepr t = true) : conLoop mk texts = .ok items := by
  induction hs with
  | nil => rfl
  | @cons c t cs ts h1 _ ih =>
    rw [List.all_cons, Bool.and_eq_true, Bool.not_eq_true'] at hns
    rw [List.forall_mem_cons] at hok ha
    simp only [conLoop, conFromString_spelling h1 hok.1 ha.1, hns.1, ih hok.2 hns.2 ha.2,
      Bool.false_eq_true, if_false]

theorem spelled_props {items : List TCon} {texts : List (List Char)} (hs : Spelled items texts)
    (hok : ∀ c ∈ items, ConOk mk c) : ∀ t ∈ texts, t ≠ [] ∧ removeSpaces t = t ∧ '|' ∉ t := by
  induction hs with
  | nil => exact fun _ ht => nomatch ht
  | cons h1 _ ih =>
    rw [List.forall_mem_cons] at hok ⊢
    exact ⟨(spelling_props h1 hok.1).1, ih hok.2⟩

theorem mem_bars {c : Char} {n : Nat} (h : c ∈ bars n) : c = '|' := List.eq_of_mem_replicate h

theorem removeSpaces_bars (n : Nat) : removeSpaces (bars n) = bars n :=
  removeSpaces_eq_self_iff.mpr fun _ hc => mem_bars hc ▸ rfl

theorem parseConstraints_bars (mk : List Char → Except TErr (List Char)) (c : List Char)
    (n m : Nat) : parseConstraints mk (bars n ++ c ++ bars m) = parseConstraints mk c := by
  have hb (k : Nat) : ∀ c ∈ bars k, ['|'].contains c = true := fun _ hc => by
    rw [mem_bars hc]; rfl
  simp only [parseConstraints, constraintBody, removeSpaces_append, removeSpaces_bars,
    stripSet_pad _ (hb n) (hb m)]

theorem removeSpaces_join {texts : List (List Char)} (h : ∀ t ∈ texts, removeSpaces t = t) :
    removeSpaces (join ['|'] texts) = join ['|'] texts := by
  rw [removeSpaces_eq_self_iff]
  intro c hc
  rcases mem_join hc with h1 | ⟨p, hp, hcp⟩
  · rw [List.mem_singleton.mp h1]; rfl
  · exact removeSpaces_eq_self_iff.mp (h p hp) c hcp

theorem constraintBody_texts {t : List Char} {ts : List (List Char)}
    (h : ∀ p ∈ t :: ts, p ≠ [] ∧ removeSpaces p = p ∧ '|' ∉ p)
    (hstar : startsWith t ['*'] = false) :
    constraintBody (join ['|'] (t :: ts)) = .ok (.texts (t :: ts)) := by
  have hbar : ∀ p ∈ t :: ts, '|' ∉ p := fun p hp => (h p hp).2.2
  -- the joined text neither starts nor ends with `|`, so `strip("|")` leaves it alone
  obtain ⟨x, xs, rfl⟩ := List.exists_cons_of_ne_nil (h t List.mem_cons_self).1
  obtain ⟨rest, hrest⟩ := join_cons_cons ['|'] x xs ts
  obtain ⟨init, y, hlast, p, hp, hy⟩ :=
    join_eq_snoc (sep := ['|']) (List.cons_ne_nil _ ts) fun p hp => (h p hp).1
  have hstrip := stripSet_of_ends (chars := ['|'])
    (fun hm => hbar _ List.mem_cons_self (List.mem_singleton.mp hm ▸ List.mem_cons_self))
    (fun hm => hbar p hp (List.mem_singleton.mp hm ▸ hy)) hrest hlast
  have hnil : (join ['|'] ((x :: xs) :: ts)).isEmpty = false := by rw [hrest]; rfl
  have hs : startsWith (join ['|'] ((x :: xs) :: ts)) ['*'] = false := by rw [hrest]; exact hstar
  simp only [constraintBody, removeSpaces_join fun p hp => (h p hp).2.1, hstrip, hnil, hs,
    Bool.false_eq_true, if_false, splitChar_join (List.cons_ne_nil _ ts) hbar]

theorem parseConstraints_spelled {items : List TCon} {texts : List (List Char)}
    (hsp : Spelled items texts) (hne : items ≠ []) (hstar : StarAlone items)
    (hok : ∀ c ∈ items, ConOk mk c) (ha : ∀ t ∈ texts, isAsciiRepr t = true) :
    parseConstraints mk (join ['|'] texts) = .ok items := by
  rcases hstar with rfl | hs
  · cases hsp with
    | cons h1 h2 =>
      cases h1; cases h2
      rfl
  · cases hsp with
    | nil => exact absurd rfl hne
    | @cons c t cs ts h1 h2 =>
      have hc : c.isStar = false := by
        rw [List.all_cons, Bool.and_eq_true, Bool.not_eq_true'] at hs; exact hs.1
      simp only [parseConstraints, constraintBody_texts (spelled_props (.cons h1 h2) hok)
        ((spelling_props h1 (hok c List.mem_cons_self)).2 hc),
        conLoop_spelled (.cons h1 h2) hok hs ha]

/-- `not vers or not vers.strip()` is "`remove_spaces(vers)` is empty" -/
theorem header_eq (t : List Char) :
    header t = if (removeSpaces t).isEmpty then .error .ValueError
      else headerCore (removeSpaces t) := by
  unfold header
  cases t with
  | nil => rfl
  | cons c cs =>
    simp only [List.isEmpty_cons, Bool.false_or, List.isEmpty_iff, stripWs_eq_nil_iff (c :: cs)]

theorem removeSpaces_shape (u s c : List Char) :
    removeSpaces (u ++ ':' :: (s ++ '/' :: c)) =
      removeSpaces u ++ ':' :: (removeSpaces s ++ '/' :: removeSpaces c) := by
  rw [removeSpaces_append, removeSpaces_cons, removeSpaces_append, removeSpaces_cons,
    if_neg (by decide), if_neg (by decide)]

theorem fromString_shape (mkVer : MkVer) {t u s c : List Char}
    (ht : removeSpaces t = u ++ ':' :: (s ++ '/' :: c)) (hu : ':' ∉ u) (hs : '/' ∉ s) :
    fromString mkVer t =
      if !isAsciiRepr (removeSpaces t) then .error .ValueError
      else if lower u != ['v', 'e', 'r', 's'] then .error .ValueError
      else
        match registryL.lookup (lower s) with
        | none => .error .ValueError
        | some cls =>
            match versionClassOf cls with
            | none => .error (.other "NoVersionClass")
            | some vc => (parseConstraints (mkVer vc) c).map (Prod.mk (lower s)) := by
  have hne : (removeSpaces t).isEmpty = false := by rw [ht]; cases u <;> rfl
  rw [fromString, fromStringItems, header_eq, hne, if_neg Bool.false_ne_true, headerCore]
  simp only [ht, partitionChar_append _ hu, partitionChar_append _ hs]
  -- both sides are the same cascade of tests
  cases isAsciiRepr _ <;> cases lower u != ['v', 'e', 'r', 's'] <;> try rfl
  cases registryL.lookup (lower s) with
  | none => rfl
  | some cls =>
    simp only [Bool.not_true, Bool.false_eq_true, if_false]
    cases versionClassOf cls with
    | none => rfl
    | some vc =>
      dsimp only
      cases parseConstraints (mkVer vc) c <;> rfl

theorem mem_lower_colon (s : List Char) : ':' ∈ lower s ↔ ':' ∈ s :=
  mem_lower_of_not_letter (by decide +kernel) (by decide +kernel) s

theorem mem_lower_slash (s : List Char) : '/' ∈ lower s ↔ '/' ∈ s :=
  mem_lower_of_not_letter (by decide +kernel) (by decide +kernel) s

/-- C05, C13: every spelling of an expression (`Renders`) is read as exactly that expression -/
theorem fromString_exact (mkVer : MkVer) (e : Expr) (vc : String) (t : List Char)
    (hreg : Registered e.scheme vc) (hne : e.items ≠ []) (hstar : StarAlone e.items)
    (hok : ∀ c ∈ e.items, ConOk (mkVer vc) c) (hr : Renders e t)
    (ha : isAsciiRepr (removeSpaces t) = true) :
    fromString mkVer t = .ok (e.scheme, constraintsOf e) := by
  obtain ⟨u, s, texts, n, m, hu, hs, hsp, heq⟩ := hr
  rw [List.append_assoc, List.cons_append] at heq
  have hcolon : ':' ∉ u := fun h => absurd ((mem_lower_colon u).mpr h) (by rw [hu]; decide)
  have hslash : '/' ∉ s := fun h =>
    (registered_props hreg).2.2.2 (hs ▸ (mem_lower_slash s).mpr h)
  have hascii : ∀ p ∈ texts, isAsciiRepr p = true := fun p hp =>
    isAsciiRepr_of_subset (fun c hc => by simp [heq, mem_join_of_mem (sep := ['|']) hp hc]) ha
  obtain ⟨cls, hl, hv⟩ := hreg
  rw [fromString_shape mkVer heq hcolon hslash, ha, hu, hs, hl]
  simp only [hv, parseConstraints_bars, parseConstraints_spelled hsp hne hstar hok hascii]
  rfl

/-- C13: all spellings have the same canonical text -/
theorem toString_fromString_canonical (mkVer : MkVer) (e : Expr) (vc : String) (t : List Char)
    (hreg : Registered e.scheme vc) (hne : e.items ≠ []) (hstar : StarAlone e.items)
    (hok : ∀ c ∈ e.items, ConOk (mkVer vc) c) (hr : Renders e t)
    (ha : isAsciiRepr (removeSpaces t) = true) :
    (fromString mkVer t).map (fun r => toString r.1 r.2) = .ok (toString e.scheme e.items) := by
  rw [fromString_exact mkVer e vc t hreg hne hstar hok hr ha]; rfl

theorem spelled_map_conStr (items : List TCon) : Spelled items (items.map conStr) := by
  induction items with
  | nil => exact .nil
  | cons c cs ih =>
    refine .cons ?_ ih
    cases c with
    | star => exact .star
    | mk k v => cases k <;> first | exact .bare v | exact .explicit _ v

theorem removeSpaces_toString {scheme : List Char} {vc : String} {items : List TCon}
    (hreg : Registered scheme vc) (hok : ∀ c ∈ items, ConOk mk c) :
    removeSpaces (toString scheme items) = toString scheme items := by
  have hj := removeSpaces_join fun t ht => (spelled_props (spelled_map_conStr items) hok t ht).2.1
  simp only [toString, removeSpaces_append, (registered_props hreg).2.2.1, hj]
  rfl

theorem renders_toString {scheme : List Char} {vc : String} {items : List TCon}
    (hreg : Registered scheme vc) (hok : ∀ c ∈ items, ConOk mk c) :
    Renders ⟨scheme, items⟩ (toString scheme items) := by
  refine ⟨['v', 'e', 'r', 's'], scheme, items.map conStr, 0, 0, by decide +kernel,
    (registered_props hreg).2.1, spelled_map_conStr items, ?_⟩
  rw [removeSpaces_toString hreg hok]
  simp only [toString, bars, List.replicate_zero, List.nil_append, List.append_nil,
    List.append_assoc, List.cons_append]

/-- C05: parsing the printed range gives it back -/
theorem fromString_toString (mkVer : MkVer) (scheme : List Char) (vc : String)
    (items : List TCon) (hreg : Registered scheme vc) (hne : items ≠ [])
    (hstar : StarAlone items) (hok : ∀ c ∈ items, ConOk (mkVer vc) c)
    (ha : isAsciiRepr (toString scheme items) = true) :
    fromString mkVer (toString scheme items) = .ok (scheme, items) :=
  fromString_exact mkVer ⟨scheme, items⟩ vc _ hreg hne hstar hok (renders_toString hreg hok)
    (by rw [removeSpaces_toString hreg hok]; exact ha)

/-! ### C13 on every text `uri:scheme/constraints`, accepted or not -/

/-- the case of `vers` and of the scheme -/
theorem fromString_case (mkVer : MkVer) {t t' u u' s s' c : List Char}
    (ht : removeSpaces t = u ++ ':' :: (s ++ '/' :: c))
    (ht' : removeSpaces t' = u' ++ ':' :: (s' ++ '/' :: c))
    (hu : ':' ∉ u) (hu' : ':' ∉ u') (hs : '/' ∉ s) (hs' : '/' ∉ s')
    (eu : lower u = lower u') (es : lower s = lower s') :
    fromString mkVer t = fromString mkVer t' := by
  -- the ASCII test does not depend on case
  have ha : isAsciiRepr (removeSpaces t) = isAsciiRepr (removeSpaces t') := by
    rw [← isAsciiRepr_lower, ← isAsciiRepr_lower (removeSpaces t'), ht, ht']
    simp only [lower_append, lower_cons, eu, es]
  rw [fromString_shape mkVer ht hu hs, fromString_shape mkVer ht' hu' hs', ha, eu, es]

theorem fromString_case_eq (mkVer : MkVer) {u u' s s' : List Char} (c : List Char)
    (hu : ':' ∉ u) (hu' : ':' ∉ u') (hs : '/' ∉ s) (hs' : '/' ∉ s')
    (eu : lower u = lower u') (es : lower s = lower s') :
    fromString mkVer (u ++ ':' :: (s ++ '/' :: c)) =
      fromString mkVer (u' ++ ':' :: (s' ++ '/' :: c)) :=
  fromString_case mkVer (removeSpaces_shape u s c) (removeSpaces_shape u' s' c)
    (not_mem_removeSpaces hu) (not_mem_removeSpaces hu') (not_mem_removeSpaces hs)
    (not_mem_removeSpaces hs') (by rw [← removeSpaces_lower, eu, removeSpaces_lower])
    (by rw [← removeSpaces_lower, es, removeSpaces_lower])

/-- stray bars before and after the constraints (FIXED CODE: also around the star) -/
theorem fromString_bars (mkVer : MkVer) {t t' u s c : List Char} {n m : Nat}
    (ht : removeSpaces t = u ++ ':' :: (s ++ '/' :: c))
    (ht' : removeSpaces t' = u ++ ':' :: (s ++ '/' :: (bars n ++ c ++ bars m)))
    (hu : ':' ∉ u) (hs : '/' ∉ s) : fromString mkVer t' = fromString mkVer t := by
  have hx (z : List Char) : u ++ ':' :: (s ++ '/' :: z) = u ++ ':' :: (s ++ ['/']) ++ z := by
    simp
  have ha : isAsciiRepr (removeSpaces t') = isAsciiRepr (removeSpaces t) := by
    rw [ht, ht', hx c, hx (bars n ++ c ++ bars m)]
    exact isAsciiRepr_pad (bars n) (bars m) fun _ hc => by
      rw [(List.mem_append.mp hc).elim mem_bars mem_bars]; decide
  rw [fromString_shape mkVer ht hu hs, fromString_shape mkVer ht' hu hs, ha]
  simp only [parseConstraints_bars]

/-- an explicit `=` -/
theorem conFromString_explicit_eq (mk : List Char → Except TErr (List Char)) (v : List Char)
    (h : plainStart v) : conFromString mk ('=' :: v) = conFromString mk v := by
  have hs (t : List Char) : split (removeSpaces t) = split t := by
    rw [split, split, removeSpaces_idem]
  have ha : isAsciiRepr (removeSpaces ('=' :: v)) = isAsciiRepr (removeSpaces v) := by
    rw [removeSpaces_cons, if_neg (by decide)]
    simpa using isAsciiRepr_pad (x := []) (a := removeSpaces v) ['='] [] (by decide)
  simp only [conFromString, ha, hs, split_plain h,
    show split ('=' :: v) = (['='], removeSpaces v) from split_cmpr .eq h]

theorem conLoop_congr (a b : List (List Char)) {p p' : List Char}
    (h : conFromString mk p = conFromString mk p') :
    conLoop mk (a ++ p :: b) = conLoop mk (a ++ p' :: b) := by
  induction a with
  | nil => simp only [List.nil_append, conLoop, h]
  | cons q qs ih => simp only [List.cons_append, conLoop, ih]

theorem conLoop_explicit_eq (mk : List Char → Except TErr (List Char)) (a b : List (List Char))
    (v : List Char) (h : plainStart v) :
    conLoop mk (a ++ ('=' :: v) :: b) = conLoop mk (a ++ v :: b) :=
  conLoop_congr a b (conFromString_explicit_eq mk v h)

theorem conFromString_error {t : List Char} {e : TErr} (h : conFromString mk t = .error e) :
    e = .ValueError ∨ ∃ v, mk v = .error e := by
  revert h
  fun_cases conFromString mk t <;> intro h <;> cases h
  case case5 hm => exact .inr ⟨_, hm⟩
  all_goals exact .inl rfl

theorem conLoop_result (ts : List (List Char)) :
    match conLoop mk ts with
    | .ok items => items.all (fun c => !c.isStar) = true
    | .error e => e = .ValueError ∨ ∃ v, mk v = .error e := by
  fun_induction conLoop mk ts with
  | case1 => rfl
  | case2 p ps e hc => exact conFromString_error hc
  | case3 p ps c hc hs => exact .inl rfl
  | case4 p ps c hc hs e hl ih => exact hl ▸ ih
  | case5 p ps c hc hs cs hl ih =>
    rw [hl] at ih
    simpa [hs] using ih

theorem constraintBody_error {c : List Char} {e : TErr} (h : constraintBody c = .error e) :
    e = .ValueError := by
  revert h
  fun_cases constraintBody c <;> intro h <;> cases h <;> rfl

theorem parseConstraints_result (c : List Char) :
    match parseConstraints mk c with
    | .ok items => StarAlone items
    | .error e => e = .ValueError ∨ ∃ v, mk v = .error e := by
  fun_cases parseConstraints mk c with
  | case1 e hb => exact .inl (constraintBody_error hb)
  | case2 _ e hs => rw [conFromString_star] at hs; cases hs
  | case3 _ c hs => rw [conFromString_star] at hs; cases hs; exact .inl rfl
  | case4 ts _ =>
    have := conLoop_result (mk := mk) ts
    cases hl : conLoop mk ts with
    | error e => rw [hl] at this; exact this
    | ok items => rw [hl] at this; exact .inr this

theorem header_cases (t : List Char) :
    header t = .error .ValueError ∨ ∃ scheme vc, header t =
      .ok (scheme, vc, (partitionChar '/' (partitionChar ':' (removeSpaces t)).2.2).2.2) := by
  rw [header_eq]
  split
  · exact .inl rfl
  fun_cases headerCore (removeSpaces t)
  case case4 =>
    rename_i cls hl hv
    obtain ⟨p, hp, e⟩ := List.mem_map.mp (Str.mem_of_lookup hl)
    have := registry_versionClass p hp
    rw [(Prod.mk.inj e).2, hv] at this
    cases this
  case case5 =>
    exact .inr ⟨_, _, by rw [‹partitionChar ':' _ = _›, ‹partitionChar '/' _ = _›]⟩
  all_goals exact .inl rfl

theorem fromString_result (mkVer : MkVer) (t : List Char) :
    match fromString mkVer t with
    | .ok r => StarAlone r.2
    | .error e => e = .ValueError ∨ ∃ vc v, mkVer vc v = .error e := by
  rw [fromString]
  fun_cases fromStringItems mkVer t with
  | case1 e hh =>
    rcases header_cases t with h | ⟨_, _, h⟩ <;> rw [h] at hh <;> cases hh
    exact .inl rfl
  | case2 scheme vc c hh e hp =>
    have := parseConstraints_result (mk := mkVer vc) c
    rw [hp] at this
    exact this.imp_right fun ⟨v, hv⟩ => ⟨vc, v, hv⟩
  | case3 scheme vc c hh items hp =>
    have := parseConstraints_result (mk := mkVer vc) c
    rw [hp] at this
    exact this

/-- C16: only `ValueError`, or what the version class raised (`InvalidVersion` for a lawful one) -/
theorem fromString_declared {mkVer : MkVer} {t : List Char} {e : TErr}
    (h : fromString mkVer t = .error e) :
    e = .ValueError ∨ ∃ vc v, mkVer vc v = .error e := by
  have := fromString_result mkVer t
  rw [h] at this
  exact this

theorem fromString_declared' {mkVer : MkVer} {t : List Char} {e : TErr}
    (hmk : ∀ vc v e, mkVer vc v = .error e → e.declared = true)
    (h : fromString mkVer t = .error e) : e.declared = true := by
  rcases fromString_declared h with h1 | ⟨vc, v, hv⟩
  · subst h1; rfl
  · exact hmk vc v e hv

/-- FIXED CODE: `parsed_constraints.sort()` never compares `None` with a version (`TypeError`) -/
theorem fromString_starAlone {mkVer : MkVer} {t : List Char} {scheme : List Char}
    {items : List TCon} (h : fromString mkVer t = .ok (scheme, items)) : StarAlone items := by
  have := fromString_result mkVer t
  rw [h] at this
  exact this

theorem fromString_of_no_constraints (mkVer : MkVer) {t : List Char}
    (hnil : (partitionChar '/' (partitionChar ':' (removeSpaces t)).2.2).2.2 = []) :
    fromString mkVer t = .error .ValueError := by
  have := header_cases t
  rw [hnil] at this
  rcases this with h | ⟨_, _, h⟩ <;> simp only [fromString, fromStringItems, h]
  rfl

/-- C13: trailing bars, without hypothesis on the text -/
theorem fromString_trailing_bars (mkVer : MkVer) (t : List Char) (m : Nat) :
    fromString mkVer (t ++ bars m) = fromString mkVer t := by
  have hb : removeSpaces (t ++ bars m) = removeSpaces t ++ bars m := by
    rw [removeSpaces_append, removeSpaces_bars]
  have hbar {d : Char} (hd : d ≠ '|') {v : List Char} (h : d ∉ v) : d ∉ v ++ bars m :=
    fun hm => (List.mem_append.mp hm).elim h fun h1 => hd (mem_bars h1)
  by_cases hc : ':' ∈ removeSpaces t
  · obtain ⟨a, b, hw, ha⟩ := List.eq_append_cons_of_mem hc
    by_cases hs : '/' ∈ b
    · obtain ⟨sc, c, rfl, hsc⟩ := List.eq_append_cons_of_mem hs
      exact fromString_bars mkVer (n := 0) (m := m) hw (by rw [hb, hw]; simp [bars]) ha hsc
    · -- no `/` after the first `:`: both sides are ValueErrors
      rw [fromString_of_no_constraints mkVer (t := t) (by
          rw [hw, partitionChar_append _ ha, partitionChar_of_not_mem hs]),
        fromString_of_no_constraints mkVer (by
          rw [hb, hw, List.append_assoc, List.cons_append, partitionChar_append _ ha,
            partitionChar_of_not_mem (hbar (by decide) hs)])]
  · -- no `:`: the same
    rw [fromString_of_no_constraints mkVer (t := t) (by rw [partitionChar_of_not_mem hc]; rfl),
      fromString_of_no_constraints mkVer (by
        rw [hb, partitionChar_of_not_mem (hbar (by decide) hc)]; rfl)]

def stubMkVer : MkVer := fun _ v => .ok v

section

/- `DecidableEq` on parse results, so that the kernel alone evaluates the test vectors -/
local instance : DecidableEq TCon
  | .star, .star => isTrue rfl
  | .mk c v, .mk c' v' => decidable_of_iff (c = c' ∧ v = v') (by rw [Con.mk.injEq])
  | .star, .mk .. => isFalse nofun
  | .mk .., .star => isFalse nofun

local instance {ε α : Type} [DecidableEq ε] [DecidableEq α] : DecidableEq (Except ε α)
  | .ok a, .ok b => decidable_of_iff (a = b) (by rw [Except.ok.injEq])
  | .error a, .error b => decidable_of_iff (a = b) (by rw [Except.error.injEq])
  | .ok _, .error _ => isFalse nofun
  | .error _, .ok _ => isFalse nofun

/-- FIXED CODE: the star with stray bars is the star range; a star inside a list, a second
star, text after the star are ValueErrors -/
theorem fromString_star_witnesses :
    fromString stubMkVer "vers:npm/*|".toList = .ok ("npm".toList, [.star]) ∧
    fromString stubMkVer "vers:npm/|*".toList = .ok ("npm".toList, [.star]) ∧
    fromString stubMkVer "vers:npm/|*|".toList = .ok ("npm".toList, [.star]) ∧
    fromString stubMkVer "vers:npm/1.0|*".toList = .error .ValueError ∧
    fromString stubMkVer "vers:npm/|*|*".toList = .error .ValueError ∧
    fromString stubMkVer "vers:npm/1.0|*junk".toList = .error .ValueError ∧
    fromString stubMkVer "vers:npm/|".toList = .error .ValueError := by decide +kernel

/-- FIXED CODE: `alpine` is a known scheme -/
theorem fromString_alpine :
    fromString stubMkVer "vers:alpine/1.0".toList =
      .ok ("alpine".toList, [.mk .eq "1.0".toList]) := by decide +kernel

end

end Univers.Text.Vers
