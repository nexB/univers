/-
Agreement theorems for `VersionRange.__str__` and `VersionRange.to_dict` as translated from `univers/version_range.py`
on every run (`Univers/Gen/PyTextRangeStr.lean`, `PyTextRangeToDict.lean`): printing a range is sorting its constraints
(Layer B, the parameter `sortT`) and then the model's `toString` of `Univers/Text/Vers.lean`; `to_dict` is the model's
`toDict`.  These are what the round-trip theorems of C05 and the presentation theorems of C13 are about.
-/
import Univers.Gen.PyTextRangeStr
import Univers.Gen.PyTextRangeToDict
import Univers.Text.GenTextThm

namespace Univers.Gen.Text
open Univers Univers.PyRt Univers.Text Univers.Text.Str Univers.Text.Vers Univers.Text.PyText

variable (mk : List Char → Except TErr (List Char)) (sortT : List TCon → Except TErr (List TCon))

/-- `VersionRange.__str__` -/
theorem vr_str_eq (scheme : List Char) (items : List TCon) :
    vr_str mk sortT (scheme, items) = (sortT items >>= fun s => .ok (Vers.toString scheme s)) := by
  unfold vr_str Vers.toString
  simp only [vc_str_eq, mapM_ok, bind, Except.bind, List.append_assoc]
  cases sortT items <;> rfl

/-- on a constraint list that sorting leaves alone (a range object holds its constraints sorted) the printed text is
the model's `toString` of that list -/
theorem vr_str_sorted (scheme : List Char) (items : List TCon) (h : sortT items = .ok items) :
    vr_str mk sortT (scheme, items) = .ok (Vers.toString scheme items) := by
  rw [vr_str_eq, h]; rfl

/-- `VersionRange.to_dict` -/
theorem vr_to_dict_eq (scheme : List Char) (items : List TCon) :
    vr_to_dict mk sortT (scheme, items) = .ok (Vers.toDict scheme items) := by
  unfold vr_to_dict Vers.toDict
  simp only [vc_to_dict_eq, mapM_ok, bind, Except.bind]

example : vr_str (fun v => .ok v) (fun l => .ok l) ("npm".toList, [.mk .ge "1.0.0".toList, .mk .lt "2.0.0".toList])
    = .ok "vers:npm/>=1.0.0|<2.0.0".toList := by
  repeat rw [String.toList_ofList]
  decide +kernel

end Univers.Gen.Text
