/-
From the Python source to the specification for the vers parser: `VersionRange.from_string` as TRANSLATED on every run
(`Univers/Gen/PyTextRangeFromString.lean`), with both flags off and a sort that leaves the list alone, applied to ANY
rendering of an expression (any case of `vers:` and of the scheme, blanks anywhere, stray bars, `=` explicit or not),
returns the registered class of the scheme with exactly the constraints the expression states — the agreement theorem
(`vr_from_string_eq`, `fromStringFull_plain`) followed by the model's exactness theorem (`fromString_exact`): the parsing
half of C05 and the presentation independence of C13.
-/
import Univers.Text.GenRangeTextThm
import Univers.Text.VersThm

namespace Univers.Gen.Text
open Univers Univers.PyRt Univers.Text Univers.Text.Str Univers.Text.Vers Univers.Text.PyText

variable (mkVer : MkVer) (simpT : List TCon → Except TErr (List TCon)) (valT : List TCon → Except TErr Bool)

/-- the parsing half of C05 -/
theorem py_from_string_exact (e : Expr) (vc : String) (t : List Char)
    (hreg : Registered e.scheme vc) (hne : e.items ≠ []) (hstar : StarAlone e.items)
    (hok : ∀ c ∈ e.items, ConOk (mkVer vc) c) (hr : Renders e t)
    (ha : isAsciiRepr (removeSpaces t) = true) :
    ∃ cls, registryL.lookup e.scheme = some cls ∧
      vr_from_string mkVer (fun x => .ok x) simpT valT t false false = .ok (cls, constraintsOf e) := by
  obtain ⟨cls, hcls, _⟩ := hreg
  refine ⟨cls, hcls, ?_⟩
  rw [vr_from_string_eq, fromStringFull_plain, fromString_exact mkVer e vc t ⟨cls, hcls, ‹_›⟩ hne hstar hok hr ha]
  simp only [hcls]

/-- the presentation independence of C13 -/
theorem py_from_string_presentation_independent (e : Expr) (vc : String) (t t' : List Char)
    (hreg : Registered e.scheme vc) (hne : e.items ≠ []) (hstar : StarAlone e.items)
    (hok : ∀ c ∈ e.items, ConOk (mkVer vc) c) (hr : Renders e t) (hr' : Renders e t')
    (ha : isAsciiRepr (removeSpaces t) = true) (ha' : isAsciiRepr (removeSpaces t') = true) :
    vr_from_string mkVer (fun x => .ok x) simpT valT t false false
      = vr_from_string mkVer (fun x => .ok x) simpT valT t' false false := by
  obtain ⟨cls, hc, h1⟩ := py_from_string_exact mkVer simpT valT e vc t hreg hne hstar hok hr ha
  obtain ⟨cls', hc', h2⟩ := py_from_string_exact mkVer simpT valT e vc t' hreg hne hstar hok hr' ha'
  rw [h1, h2, Option.some.inj (hc.symm.trans hc')]

end Univers.Gen.Text
