/-
Agreement theorems for the TEXT functions translated from the Python source on every run
(`harness/translate_text.py` → `Univers/Gen/PyText*.lean`): `remove_spaces`, `VersionConstraint.split`,
`.from_string`, `.__str__`, `.to_dict` are the model's `removeSpaces`, `split`, `conFromString`, `conStr`,
`conToDict` of `Univers/Text/Vers.lean` that the theorems of C05, C13 and C16 are about.
-/
import Univers.Gen.PyTextConFromString
import Univers.Gen.PyTextConStr
import Univers.Gen.PyTextConToDict
import Univers.Vers.PyRtLemmas

namespace Univers.Gen.Text
open Univers Univers.PyRt Univers.Text Univers.Text.Str Univers.Text.Vers Univers.Text.PyText

variable (mk : List Char → Except TErr (List Char))

/-- `remove_spaces` -/
theorem py_remove_spaces_eq (s : List Char) : py_remove_spaces mk s = .ok (removeSpaces s) := rfl

theorem split_for_eq (string) (cs : List Char) (ks : List (List Char)) :
    pyFor ks () (vc_split_for1_body mk string cs) (vc_split_for1_after mk string cs) = .ok (splitLoop ks cs) := by
  induction ks with
  | nil => rfl
  | cons k ks ih =>
    simp only [pyFor_cons, vc_split_for1_body, splitLoop]
    by_cases h : startsWith cs k = true
    · by_cases hs : (k == ['*']) = true <;> simp [h, hs]
    · simp [h, ih]

/-- `VersionConstraint.split` -/
theorem vc_split_eq (s : List Char) : vc_split mk s = .ok (split s) := by
  unfold vc_split split
  simp only [py_remove_spaces_eq, bind, Except.bind]
  split
  · rfl
  · exact split_for_eq mk s _ _

theorem star_iff_table : ∀ p ∈ Gen.comparators, (cmprOfName p.2 = some none ↔ p.1.toList = ['*']) := by
  decide +kernel

/-- among the keys of `COMPARATORS`, the star is the one that names no operator -/
theorem lookup_star_iff {k : List Char} {r : Option Cmpr} (h : lookupComparator k = some r) :
    k = ['*'] ↔ r = none := by
  unfold lookupComparator at h
  split at h
  · next p hf =>
    have hk : p.1.toList = k := by simpa using List.find?_some hf
    rw [← hk, ← star_iff_table p (List.mem_of_find?_eq_some hf), h, Option.some.injEq]
  · cases h

/-- `VersionConstraint.from_string` -/
theorem vc_from_string_eq (s : List Char) : vc_from_string mk s = conFromString mk s := by
  unfold vc_from_string conFromString
  by_cases ha : isAsciiRepr (removeSpaces s) = true
  · rcases hp : split (removeSpaces s) with ⟨comparator, version⟩
    simp only [py_remove_spaces_eq, vc_split_eq, bind, Except.bind, mkTCon, ha, hp, Bool.not_true,
      Bool.false_eq_true, ↓reduceIte]
    rw [inComparators]
    cases hl : lookupComparator comparator with
    | none => rfl
    | some r =>
      -- the code tests for the text "*" where the model asks whether the key names an operator
      have hstar := lookup_star_iff hl
      cases r with
      | none =>
        obtain rfl := hstar.mpr rfl
        cases version.isEmpty <;> rfl
      | some c =>
        have hc : comparator ≠ ['*'] := fun h => nomatch hstar.mp h
        rw [bne_iff_ne.mpr hc, beq_eq_false_iff_ne.mpr hc]
        cases version.isEmpty with
        | true => rfl
        | false => cases mk version <;> rfl
  · simp only [py_remove_spaces_eq, bind, Except.bind, ha, Bool.not_false, ↓reduceIte]

/-- `VersionConstraint.__str__` -/
theorem vc_str_eq (c : TCon) : vc_str mk c = .ok (conStr c) := by
  cases c using comparatorCases <;> rfl

/-- `VersionConstraint.to_dict` -/
theorem vc_to_dict_eq (c : TCon) : vc_to_dict mk c = .ok (conToDict c) := by
  cases c using comparatorCases <;> rfl

/-! The test vectors that close the files importing this one are closed terms: a literal's `toList` is read off with
`String.toList_ofList` (decoding its UTF-8 bytes by evaluation is dear), and the kernel decides the rest. -/

deriving instance DecidableEq for Con, Except

end Univers.Gen.Text
