/-
Text layer — THEOREMS about the Conan range converter
(model `ConanRange.lean`, spec `ConanRangeSpec.lean`).
-/
import Univers.Text.ConanRangeSpec
import Univers.Scheme.ConanThm
import Univers.Text.Str
import Univers.Basic.Digits

namespace Univers.Text.ConanRange

open Univers Univers.Text

theorem splitOn_eq (sep : Char) (s : List Char) : splitOn sep s = Str.splitChar sep s := by
  induction s with
  | nil => rfl
  | cons c cs ih =>
    simp only [splitOn, Str.splitChar, ih]
    cases Str.splitChar sep cs <;> rfl

theorem joinDots_eq (ps : List (List Char)) : joinDots ps = Str.join ['.'] ps := by
  induction ps with
  | nil => rfl
  | cons p ps ih =>
    cases ps with
    | nil => rfl
    | cons q qs =>
      rw [joinDots, ih, Str.join, List.append_assoc]
      · rfl
      · exact fun h => nomatch h

theorem splitBars_cons_ne {c : Char} (rest : List Char) (hc : c ≠ '|') :
    splitBars (c :: rest) =
      match splitBars rest with
      | [] => [[c]]
      | p :: ps => (c :: p) :: ps := by
  rw [splitBars]
  · rfl
  · intro r h; exact absurd h hc

theorem splitBars_ne_nil (s : List Char) : splitBars s ≠ [] := by
  fun_cases splitBars s <;> exact List.cons_ne_nil _ _

theorem splitBars_of_not_mem {s : List Char} (h : '|' ∉ s) : splitBars s = [s] := by
  induction s with
  | nil => rfl
  | cons c cs ih =>
    rw [List.mem_cons, not_or] at h
    rw [splitBars_cons_ne cs (Ne.symm h.1), ih h.2]

theorem splitBars_append_bars {a : List Char} (b : List Char) (ha : '|' ∉ a) :
    splitBars (a ++ '|' :: '|' :: b) = a :: splitBars b := by
  induction a with
  | nil => simp [splitBars]
  | cons c cs ih =>
    rw [List.mem_cons, not_or] at ha
    rw [List.cons_append, splitBars_cons_ne _ (Ne.symm ha.1), ih ha.2]

theorem splitWsAux_field {f : List Char} (s cur : List Char)
    (hf : ∀ c ∈ f, isPySpace c = false) : splitWsAux (f ++ s) cur = splitWsAux s (cur ++ f) := by
  induction f generalizing cur with
  | nil => simp
  | cons c cs ih =>
    rw [List.forall_mem_cons] at hf
    rw [List.cons_append, splitWsAux, hf.1, if_neg Bool.false_ne_true, ih _ hf.2,
      List.append_assoc, List.singleton_append]

theorem splitWsAux_ws {w : List Char} (s : List Char) (hw : allWs w = true) :
    splitWsAux (w ++ s) [] = splitWsAux s [] := by
  induction w with
  | nil => rfl
  | cons c cs ih =>
    rw [allWs, List.all_cons, Bool.and_eq_true] at hw
    rw [List.cons_append, splitWsAux, hw.1]
    exact ih hw.2

theorem splitWsAux_field_ws {f w : List Char} (s : List Char) (hf : ∀ c ∈ f, isPySpace c = false)
    (hne : f ≠ []) (hw : allWs w = true) (hwne : w ≠ [] ∨ s = []) :
    splitWsAux (f ++ w ++ s) [] = f :: splitWsAux s [] := by
  have hfe : f.isEmpty = false := List.isEmpty_eq_false_iff.2 hne
  rw [List.append_assoc, splitWsAux_field _ _ hf, List.nil_append]
  cases w with
  | nil =>
    rw [hwne.resolve_left (· rfl), List.nil_append, splitWsAux, hfe]
    rfl
  | cons c cs =>
    rw [allWs, List.all_cons, Bool.and_eq_true] at hw
    rw [List.cons_append, splitWsAux, hw.1, if_pos rfl, hfe, if_neg Bool.false_ne_true,
      splitWsAux_ws s hw.2]


section errors
variable {V : Type} (o : ConanOps V)

/-- an error of the version interface: of `ConanVersion(text)`, or of `upper_bound` at one of the
two indices the converter uses -/
def OpsError (e : TErr) : Prop :=
  (∃ t, o.make t = .error e) ∨
  (∃ t v, o.make t = .ok v ∧
    (o.upperBound v (tildeIndex o v) = .error e ∨ o.upperBound v (o.firstNonZero v) = .error e))

theorem splitOperator_error {e : List Char} {err : TErr} :
    splitOperator e = .error err → e = [] := by
  fun_cases splitOperator e
  · exact fun _ => rfl
  all_goals exact fun h => nomatch h

/- Here and below `cases h` closes the `.ok` branches of the function; the bullets are its `.error`
branches, in the order of the definition. -/
theorem parseExpression_error {e : List Char} {err : TErr} :
    parseExpression o e = .error err → err = errConan ∨ OpsError o err := by
  fun_cases parseExpression o e
  all_goals intro h; cases h
  · next hm => exact .inr (.inl ⟨_, hm⟩)
  · next hne hs => exact absurd (.inl (splitOperator_error hs)) hne
  · exact .inl rfl
  · next hm => exact .inr (.inl ⟨_, hm⟩)
  · next hm _ hu => exact .inr (.inr ⟨_, _, hm, .inl hu⟩)
  · next hm _ hu => exact .inr (.inr ⟨_, _, hm, .inr hu⟩)

theorem condLoop_error (es : List (List Char)) (pre : Bool) {err : TErr} :
    condLoop o es pre = .error err → err = errConan ∨ OpsError o err := by
  fun_induction condLoop o es pre
  all_goals intro h; cases h
  · next hp => exact parseExpression_error o hp
  · next ih hl => exact ih hl

theorem condSets_error (pre : Bool) (as : List (List Char)) {err : TErr} :
    condSets o pre as = .error err → err = errConan ∨ OpsError o err := by
  fun_induction condSets o pre as
  all_goals intro h; cases h
  · next hc => exact condLoop_error o _ _ hc
  · next ih hl => exact ih hl

theorem versionRange_error {s : List Char} {err : TErr} (h : versionRange o s = .error err) :
    err = errConan ∨ OpsError o err := by
  unfold versionRange at h
  split at h
  · next hs => exact absurd ((splitOn_eq _ _).symm.trans hs) (Str.splitChar_ne_nil _ _)
  · exact condSets_error o _ _ h

theorem toCons_error (cs : List Cond) {err : TErr} :
    toCons o cs = .error err → ∃ t, o.make t = .error err := by
  fun_induction toCons o cs
  all_goals intro h; cases h
  · next hm => exact ⟨_, hm⟩
  · next ih hl => exact ih hl

/-- C16 for the Conan converter: `from_native` returns, or raises `ConanException` (its declared
error) or an error of the version interface.  No `IndexError` escapes from `_parse_expression` any
more (`expression[1:2]`). -/
theorem conan_declared (t : List Char) :
    (∃ cs, fromNative o t = .ok cs) ∨ fromNative o t = .error errConan ∨
      ∃ err, fromNative o t = .error err ∧ OpsError o err := by
  cases h : fromNative o t with
  | ok cs => exact .inl ⟨cs, rfl⟩
  | error err =>
    unfold fromNative at h
    split at h
    · next hv =>
      cases h
      rcases versionRange_error o hv with rfl | h'
      · exact .inr (.inl rfl)
      · exact .inr (.inr ⟨_, rfl, h'⟩)
    · exact .inr (.inr ⟨_, rfl, .inl (toCons_error o _ h)⟩)

/-- an operator without version -/
theorem conan_exception_examples :
    fromNative o ['>'] = .error errConan ∧ fromNative o ['<'] = .error errConan ∧
    fromNative o ['>', '='] = .error errConan ∧ fromNative o ['='] = .error errConan ∧
    fromNative o ['~'] = .error errConan ∧ fromNative o ['^'] = .error errConan ∧
    declared errConan = true :=
  ⟨rfl, rfl, rfl, rfl, rfl, rfl, rfl⟩

end errors

def fieldChar (c : Char) : Bool := !isPySpace c && c != ',' && c != '|'

theorem fieldChar_spec {c : Char} (h : fieldChar c = true) :
    isPySpace c = false ∧ c ≠ ',' ∧ c ≠ '|' := by
  simp [fieldChar] at h
  exact ⟨h.1.1, h.1.2, h.2⟩

theorem ws_spec {c : Char} (h : isPySpace c = true) : c ≠ ',' ∧ c ≠ '|' := by
  constructor <;> (intro e; subst e; revert h; decide)

theorem safeV_iff {v : List Char} : safeV v = true ↔ v ≠ [] ∧ ∀ c ∈ v, fieldChar c = true := by
  rw [safeV, Bool.and_eq_true, Bool.not_eq_true', List.isEmpty_eq_false_iff, List.all_eq_true]
  rfl

theorem safe_version {e : Expr} (hsafe : e.safe = true) {v : List Char} (hv : e.version = some v) :
    safeV v = true := by
  cases e <;> cases hv
  · exact (Bool.and_eq_true_iff.1 hsafe).1
  · exact hsafe
  · exact hsafe

section exact
variable {V : Type} (o : ConanOps V)

def Op.expr : Op → List Char → Expr
  | .gt, v => .cmp .gt v
  | .lt, v => .cmp .lt v
  | .ge, v => .cmp .ge v
  | .le, v => .cmp .le v
  | .eq, v => .cmp .eq v
  | .tilde, v => .tilde v
  | .caret, v => .caret v

theorem parseExpression_of_split {t v : List Char} {op : Op} (hs : splitOperator t = .ok (op, v))
    (ht : ¬ (t = [] ∨ t = ['*'])) (hv : v ≠ []) : parseExpression o t = (op.expr v).conds o := by
  rw [parseExpression, if_neg ht, hs]
  simp only [if_neg hv]
  cases op <;> rfl

theorem splitOperator_angle {c : Char} {v : List Char} (hc : c = '>' ∨ c = '<')
    (hv : afterAngleOk v = true) :
    splitOperator (c :: v) = .ok (if c = '>' then .gt else .lt, v) := by
  simp only [splitOperator, if_pos hc]
  split
  · cases hv
  · rfl

theorem parseExpression_op {c : Char} {t v : List Char} {op : Op} (hc : c ≠ '*')
    (hs : splitOperator (c :: t) = .ok (op, v)) (hsafe : (op.expr v).safe = true) :
    parseExpression o (c :: t) = (op.expr v).conds o := by
  refine parseExpression_of_split o hs (fun h => h.elim (nomatch ·) fun e => hc (List.cons.inj e).1) ?_
  exact (safeV_iff.1 (safe_version hsafe (by cases op <;> rfl))).1

theorem parseExpression_spelled {e : Expr} {t : List Char} (hs : Expr.Spelled e t)
    (hsafe : e.safe = true) : parseExpression o t = e.conds o := by
  cases hs with
  | gt v hv => exact parseExpression_op o (by decide) (splitOperator_angle (.inl rfl) hv) hsafe
  | lt v hv => exact parseExpression_op o (by decide) (splitOperator_angle (.inr rfl) hv) hsafe
  | ge v => exact parseExpression_op o (op := .ge) (by decide) rfl hsafe
  | le v => exact parseExpression_op o (op := .le) (by decide) rfl hsafe
  | eq v => exact parseExpression_op o (op := .eq) (by decide) rfl hsafe
  | bare _ hb =>
    cases t with
    | nil => cases hb
    | cons d rest =>
      -- `bareOk`: `d` is none of the five operator characters, and the text is not the star
      simp only [bareOk, Bool.and_eq_true, Bool.not_eq_true', Bool.or_eq_false_iff,
        beq_eq_false_iff_ne, bne_iff_ne, ne_eq] at hb
      obtain ⟨⟨⟨⟨⟨h1, h2⟩, h3⟩, h4⟩, h5⟩, h6⟩ := hb
      refine parseExpression_of_split o (op := .eq) ?_ (fun h => h.elim (nomatch ·) h6)
        (List.cons_ne_nil _ _)
      simp only [splitOperator, h1, h2, h3, h4, h5, or_self, if_false]
  | tilde v => exact parseExpression_op o (op := .tilde) (by decide) rfl hsafe
  | caret v => exact parseExpression_op o (op := .caret) (by decide) rfl hsafe
  | star => rfl
  | empty => rfl

end exact


theorem spelled_prefix {e : Expr} {t : List Char} (hs : Expr.Spelled e t) :
    ∃ pre, t = pre ++ e.version.getD [] ∧ ∀ c ∈ pre, fieldChar c = true := by
  cases hs with
  | gt => exact ⟨['>'], rfl, by decide⟩
  | lt => exact ⟨['<'], rfl, by decide⟩
  | ge => exact ⟨['>', '='], rfl, by decide⟩
  | le => exact ⟨['<', '='], rfl, by decide⟩
  | eq => exact ⟨['='], rfl, by decide⟩
  | bare => exact ⟨[], rfl, by decide⟩
  | tilde => exact ⟨['~'], rfl, by decide⟩
  | caret => exact ⟨['^'], rfl, by decide⟩
  | star => exact ⟨['*'], rfl, by decide⟩
  | empty => exact ⟨[], rfl, by decide⟩

theorem field_fieldChar {i : Item} {f : List Char} (hf : i.Field f) (hsafe : i.e.safe = true) :
    ∀ c ∈ f, fieldChar c = true := by
  obtain ⟨t, hs, _, rfl, _⟩ := hf
  obtain ⟨pre, rfl, hpre⟩ := spelled_prefix hs
  have ht : ∀ c ∈ pre ++ i.e.version.getD [], fieldChar c = true := by
    refine List.forall_mem_append.2 ⟨hpre, ?_⟩
    cases hv : i.e.version with
    | none => exact fun _ h => nomatch h
    | some v => exact (safeV_iff.1 (safe_version hsafe hv)).2
  split
  · exact List.forall_mem_append.2 ⟨ht, by decide⟩
  · exact ht

section ranges
variable {V : Type} (o : ConanOps V)

theorem condLoop_field {i : Item} {f : List Char} (hf : i.Field f) (hsafe : i.e.safe = true)
    {fs : List (List Char)} {is : List Item} (h : ∀ pre, condLoop o fs pre = altMeaning o is pre)
    (pre : Bool) : condLoop o (f :: fs) pre = altMeaning o (i :: is) pre := by
  obtain ⟨t, hs, hlast, rfl, _⟩ := hf
  have hp := parseExpression_spelled o hs hsafe
  rw [altMeaning, ← h]
  cases hm : i.marked
  · have h1 : (t.getLast? == some '-') = false := beq_eq_false_iff_ne.2 hlast
    simp only [Bool.false_eq_true, if_false, condLoop, h1, hp, Bool.false_or]
    rfl
  · have h1 : ((t ++ ['-']).getLast? == some '-') = true := by
      rw [List.getLast?_concat, beq_self_eq_true]
    simp only [if_true, condLoop, h1, List.dropLast_concat, hp, Bool.true_or]
    rfl

/-- the invariant of `readsAs_items`: the loop of `_ConditionSet.__init__` over `(w ++ t).split()`
yields what the items state, for any leading whitespace `w` -/
def ReadsAs (is : List Item) (t : List Char) : Prop :=
  (∀ w pre, allWs w = true → condLoop o (splitWsAux (w ++ t) []) pre = altMeaning o is pre) ∧
    ∀ c ∈ t, c ≠ ',' ∧ c ≠ '|'

variable {o}

theorem ReadsAs.cons {i : Item} {f : List Char} {is : List Item} {t : List Char} (hf : i.Field f)
    (hsafe : i.e.safe = true) (hw : allWs i.ws = true) (hwne : i.ws ≠ [] ∨ t = [])
    (ht : ReadsAs o is t) : ReadsAs o (i :: is) (f ++ i.ws ++ t) := by
  have hfc := fun c hc => fieldChar_spec (field_fieldChar hf hsafe c hc)
  refine ⟨fun w pre hw' => ?_, List.forall_mem_append.2 ⟨List.forall_mem_append.2
    ⟨fun c hc => (hfc c hc).2, fun c hc => ws_spec (List.all_eq_true.1 hw c hc)⟩, ht.2⟩⟩
  rw [splitWsAux_ws _ hw', splitWsAux_field_ws t (fun c hc => (hfc c hc).1) hf.choose_spec.2.2.2
    hw hwne]
  exact condLoop_field o hf hsafe (fun pre => ht.1 [] pre rfl) pre

variable (o)

theorem readsAs_items {is : List Item} {t : List Char} (h : ItemsSpelled is t)
    (hsafe : ∀ i ∈ is, i.e.safe = true) : ReadsAs o is t := by
  have nil : ReadsAs o [] [] :=
    ⟨fun w pre hw => by rw [splitWsAux_ws [] hw]; rfl, fun c hc => nomatch hc⟩
  induction h with
  | nil => exact nil
  | last i f hf hw =>
    exact List.append_nil (f ++ i.ws) ▸ ReadsAs.cons hf (hsafe i List.mem_cons_self) hw (.inr rfl) nil
  | cons i f is t hf hw hwne _ ih =>
    exact .cons hf (hsafe i List.mem_cons_self) hw (.inl hwne)
      (ih fun j hj => hsafe j (List.mem_cons_of_mem _ hj))

def Alt.safe (a : Alt) : Bool := a.items.all (fun i => i.e.safe)

theorem conditionSet_alt {a : Alt} {t : List Char} (h : a.Spelled t) (hsafe : a.safe = true)
    (pre : Bool) :
    conditionSet o t pre = altMeaning o a.items pre ∧ (∀ c ∈ t, c ≠ ',' ∧ c ≠ '|') := by
  obtain ⟨t', hit, hlead, rfl⟩ := h
  obtain ⟨hloop, hchars⟩ := readsAs_items o hit (List.all_eq_true.1 hsafe)
  exact ⟨hloop _ pre hlead, List.forall_mem_append.2
    ⟨fun c hc => ws_spec (List.all_eq_true.1 hlead c hc), hchars⟩⟩

theorem condSets_alts {as : List Alt} {t : List Char}
    (h : AltsSpelled as t) (hsafe : ∀ a ∈ as, a.safe = true) (pre : Bool) :
    condSets o pre (splitBars t) = rangeMeaning o pre as ∧ ',' ∉ t := by
  induction h with
  | one a t ha =>
    obtain ⟨hc, hchars⟩ := conditionSet_alt o ha (hsafe a List.mem_cons_self) pre
    refine ⟨?_, fun hm => (hchars _ hm).1 rfl⟩
    rw [splitBars_of_not_mem (fun hm => (hchars _ hm).2 rfl)]
    simp only [condSets, hc, rangeMeaning]
    cases altMeaning o a.items pre <;> rfl
  | cons a t as ts ha _ ih =>
    obtain ⟨hc, hchars⟩ := conditionSet_alt o ha (hsafe a List.mem_cons_self) pre
    obtain ⟨ih1, ih2⟩ := ih (fun b hb => hsafe b (List.mem_cons_of_mem _ hb))
    constructor
    · rw [splitBars_append_bars _ (fun hm => (hchars _ hm).2 rfl)]
      simp only [condSets, hc, ih1, rangeMeaning]
      rfl
    · simp only [List.mem_append, List.mem_cons, not_or]
      exact ⟨fun hm => (hchars _ hm).1 rfl, by decide, by decide, ih2⟩

end ranges

/-- C06, Conan part: for alternatives of safe conditions in any whitespace layout, joined by `||`,
optionally followed by `,options`, `VersionRange(t).condition_sets` is what the range states
(`rangeMeaning`), errors of the version interface included, in order -/
theorem conan_range_exact {V : Type} (o : ConanOps V) (as : List Alt) (opts : Option (List Char))
    (t : List Char) (h : RangeSpelled as opts t) (hsafe : ∀ a ∈ as, a.safe = true) :
    versionRange o t = rangeMeaning o (optionsPre opts) as := by
  obtain ⟨t', hal, rfl⟩ := h
  have key := fun pre => condSets_alts o hal hsafe pre
  have hnc := (key false).2
  unfold versionRange
  cases opts with
  | none =>
    simp only [optionsText, List.append_nil, splitOn_eq, Str.splitChar_of_not_mem hnc, optionsPre,
      List.any_nil]
    exact (key false).1
  | some r =>
    simp only [optionsText, splitOn_eq, Str.splitChar_append r hnc, optionsPre]
    exact (key _).1

theorem conan_native_exact {V : Type} (o : ConanOps V) (as : List Alt) (opts : Option (List Char))
    (t : List Char) (h : RangeSpelled as opts t) (hsafe : ∀ a ∈ as, a.safe = true) :
    fromNative o t =
      match rangeMeaning o (optionsPre opts) as with
      | .error err => .error err
      | .ok sets => toCons o (sets.flatMap (·.conds)) := by
  unfold fromNative
  rw [conan_range_exact o as opts t h hsafe]
  rfl


section named
variable {V : Type} (o : ConanOps V)

theorem conan_single (e : Expr) (t : List Char) (marked : Bool) (hs : Expr.Spelled e t)
    (hsafe : e.safe = true) (hlast : t.getLast? ≠ some '-') (hne : marked = true ∨ t ≠ []) :
    fromNative o (if marked then t ++ ['-'] else t) =
      match e.conds o with
      | .error err => .error err
      | .ok cs => toCons o cs := by
  have hf : (Item.mk e marked []).Field (if marked then t ++ ['-'] else t) := by
    refine ⟨t, hs, hlast, rfl, ?_⟩
    cases marked
    · exact hne.resolve_left Bool.false_ne_true
    · exact List.append_ne_nil_of_right_ne_nil _ (List.cons_ne_nil _ _)
  have hr : RangeSpelled [⟨[], [⟨e, marked, []⟩]⟩] none (if marked then t ++ ['-'] else t) :=
    ⟨_, .one _ _ ⟨_, .last _ _ hf rfl, rfl, rfl⟩, by simp [optionsText]⟩
  rw [conan_native_exact o _ none _ hr (by simp [Alt.safe, hsafe])]
  simp only [rangeMeaning, altMeaning, optionsPre]
  cases e.conds o with
  | error err => rfl
  | ok cs => simp

theorem conan_single_version (e : Expr) (t v : List Char) (hs : Expr.Spelled e t)
    (hsafe : e.safe = true) (hv : e.version = some v) (hlast : v.getLast? ≠ some '-') :
    fromNative o t =
      match e.conds o with
      | .error err => .error err
      | .ok cs => toCons o cs := by
  have hne := (safeV_iff.1 (safe_version hsafe hv)).1
  obtain ⟨pre, rfl, -⟩ := spelled_prefix hs
  rw [hv] at hs ⊢
  have hl : (pre ++ v).getLast? = v.getLast? := by
    rw [List.getLast?_append, List.getLast?_eq_some_getLast hne]; rfl
  exact conan_single o e _ false hs hsafe (hl ▸ hlast)
    (.inr (List.append_ne_nil_of_right_ne_nil _ hne))

/-- `~v`: `>= v` and `< v.upper_bound(1 if len(v.main) > 1 else 0)` -/
theorem conan_tilde_exact (v : List Char) (hv : safeV v = true) (hlast : v.getLast? ≠ some '-')
    (x : V) (hx : o.make v = .ok x) (u : List Char) (hu : o.upperBound x (tildeIndex o x) = .ok u) :
    fromNative o ('~' :: v) = toCons o [(.ge, o.str x), (.lt, u)] := by
  rw [conan_single_version o (.tilde v) _ v (.tilde _) hv rfl hlast]
  simp only [Expr.conds, hx, hu]

/-- `^v`: `>= v` and `< v.upper_bound(first_non_zero(v.main))` -/
theorem conan_caret_exact (v : List Char) (hv : safeV v = true) (hlast : v.getLast? ≠ some '-')
    (x : V) (hx : o.make v = .ok x) (u : List Char)
    (hu : o.upperBound x (o.firstNonZero x) = .ok u) :
    fromNative o ('^' :: v) = toCons o [(.ge, o.str x), (.lt, u)] := by
  rw [conan_single_version o (.caret v) _ v (.caret _) hv rfl hlast]
  simp only [Expr.conds, hx, hu]

/-- with the real class: the `ConanException` "Cannot bump … not an int", e.g. `^abc` -/
theorem conan_caret_error (v : List Char) (hv : safeV v = true) (hlast : v.getLast? ≠ some '-')
    (x : V) (hx : o.make v = .ok x) (err : TErr)
    (hu : o.upperBound x (o.firstNonZero x) = .error err) :
    fromNative o ('^' :: v) = .error err := by
  rw [conan_single_version o (.caret v) _ v (.caret _) hv rfl hlast]
  simp only [Expr.conds, hx, hu]

theorem conan_comparators_exact (c : Cmpr) (v t : List Char) (hs : Expr.Spelled (.cmp c v) t)
    (hc : c ≠ .ne) (hv : safeV v = true) (hlast : v.getLast? ≠ some '-')
    (x : V) (hx : o.make v = .ok x) :
    fromNative o t = toCons o [(c, o.str x)] := by
  rw [conan_single_version o _ t v hs (Bool.and_eq_true_iff.2 ⟨hv, bne_iff_ne.2 hc⟩) rfl hlast]
  simp only [Expr.conds, hx]

/-- `-` is the empty condition with the marker -/
theorem conan_star_exact (x : V) (hx : o.make ['0', '.', '0', '.', '0'] = .ok x) :
    fromNative o ['*'] = toCons o [(.ge, o.str x)] ∧ fromNative o ['-'] = toCons o [(.ge, o.str x)] := by
  have h1 := conan_single o .any ['*'] false .star rfl (by decide) (.inr (List.cons_ne_nil _ _))
  have h2 := conan_single o .any [] true .empty rfl (by decide) (.inl rfl)
  simp only [Expr.conds, hx] at h1 h2
  exact ⟨h1, h2⟩

end named


/-! ### plain dotted numeric versions

The closed forms of `~` and `^` are proved once, for any version interface that reads plain
versions as the local interface `numOps` does (`Plain`); `numOps` and the Layer-A model of
`ConanVersion` (`realOps`, below) are the two instances. -/

section plain

theorem isNum_natStr (n : Nat) : isNum (natStr n) = true := by
  rw [isNum, Bool.and_eq_true, Bool.not_eq_true', List.isEmpty_eq_false_iff, List.all_eq_true]
  exact ⟨Nat.toDigits_ne_nil, toDigits_isDigit n⟩

theorem renderNum_chars (ns : List Nat) : ∀ c ∈ renderNum ns, c = '.' ∨ c.isDigit = true := by
  intro c hc
  rw [renderNum, joinDots_eq] at hc
  rcases Str.mem_join hc with h | ⟨p, hp, hcp⟩
  · exact .inl (List.mem_singleton.1 h)
  · obtain ⟨n, _, rfl⟩ := List.mem_map.1 hp
    exact .inr (toDigits_isDigit n c hcp)

theorem splitOn_renderNum (ns : List Nat) (hne : ns ≠ []) :
    splitOn '.' (renderNum ns) = ns.map natStr := by
  rw [splitOn_eq, renderNum, joinDots_eq]
  refine Str.splitChar_join (mt List.map_eq_nil_iff.1 hne) fun p hp hm => ?_
  obtain ⟨n, _, rfl⟩ := List.mem_map.1 hp
  exact absurd (toDigits_isDigit n _ hm) (by decide)

theorem numItems_renderNum (ns : List Nat) (hne : ns ≠ []) : numItems (renderNum ns) = some ns := by
  have h1 : (ns.map natStr).all isNum = true := by
    simp [List.all_eq_true, isNum_natStr]
  rw [numItems, splitOn_renderNum ns hne, if_pos h1]
  simp [List.map_map, Function.comp_def, natVal, natStr, Nat.ofDigitChars_ten_toDigits]

theorem renderNum_ne_nil : ∀ ns : List Nat, ns ≠ [] → renderNum ns ≠ []
  | [], hne => absurd rfl hne
  | [_], _ => Nat.toDigits_ne_nil
  | _ :: _ :: _, _ => List.append_ne_nil_of_left_ne_nil Nat.toDigits_ne_nil _

/-- the index `first_non_zero` returns is inside a non-empty list -/
theorem index_or_last_lt {n i : Nat} (hn : 0 < n) (hi : i ≤ n) : (if i = n then n - 1 else i) < n := by
  split
  · exact Nat.sub_lt hn Nat.one_pos
  · next h => exact Nat.lt_of_le_of_ne hi h

theorem firstNZ_lt (ns : List Nat) (hne : ns ≠ []) : firstNZ ns < ns.length :=
  index_or_last_lt (List.length_pos_iff.mpr hne) List.findIdx_le_length

theorem firstNZ_zeros (ns : List Nat) (hz : ∀ n ∈ ns, n = 0) : firstNZ ns = ns.length - 1 := by
  rw [firstNZ, List.findIdx_eq_length_of_false fun n hn => by rw [hz n hn]; rfl]
  exact if_pos rfl

/-- the characters of plain versions and of their upper bounds -/
def numChar (c : Char) : Bool := c.isDigit || c == '.' || c == '-'

/-- not whitespace (for the converter, for the version class), no separator of the notation, no
`v` that `normalize` strips -/
theorem numChar_spec {c : Char} (h : numChar c = true) :
    fieldChar c = true ∧ Conan.isPySpace c = false ∧ c ≠ 'v' ∧ c ≠ 'V' := by
  simp only [numChar, Bool.or_eq_true, beq_iff_eq] at h
  rcases h with (h | rfl) | rfl
  · obtain ⟨d, hd, rfl⟩ := digit_eq_digitChar h
    exact (by decide : ∀ d < 10, fieldChar d.digitChar = true ∧
      Conan.isPySpace d.digitChar = false ∧ d.digitChar ≠ 'v' ∧ d.digitChar ≠ 'V') d hd
  · decide
  · decide

theorem renderNum_numChars (ns : List Nat) : ∀ c ∈ renderNum ns, numChar c = true := by
  intro c hc
  rcases renderNum_chars ns c hc with rfl | hd
  · decide
  · simp [numChar, hd]

theorem renderNum_dash_numChars (ns : List Nat) :
    ∀ c ∈ renderNum ns ++ ['-'], numChar c = true :=
  List.forall_mem_append.2 ⟨renderNum_numChars ns, by decide⟩

theorem safeV_renderNum (ns : List Nat) (hne : ns ≠ []) :
    safeV (renderNum ns) = true ∧ (renderNum ns).getLast? ≠ some '-' :=
  ⟨safeV_iff.2 ⟨renderNum_ne_nil ns hne, fun c hc => (numChar_spec (renderNum_numChars ns c hc)).1⟩,
    fun h => (renderNum_chars ns _ (List.mem_of_getLast? h)).elim (by decide) (by decide)⟩

variable {V : Type} (o : ConanOps V)

structure Plain : Prop where
  version : ∀ ns, ns ≠ [] → ∃ x, o.make (renderNum ns) = .ok x ∧ o.str x = renderNum ns ∧
    o.mainLen x = ns.length ∧ o.firstNonZero x = firstNZ ns ∧
    ∀ i, o.upperBound x i = numOps.upperBound (renderNum ns) i
  bound : ∀ ns, ∃ y, o.make (renderNum ns ++ ['-']) = .ok y ∧ o.str y = renderNum ns ++ ['-']

variable {o}

/-- the closed form of `~ns` and `^ns`; `i` is the index the branch bumps -/
theorem Plain.bump (hp : Plain o) (c : Char) (ns : List Nat) (i : Nat) (hi : i < ns.length)
    (hidx : c = '~' ∧ (if ns.length > 1 then 1 else 0) = i ∨ c = '^' ∧ firstNZ ns = i) :
    fromNative o (c :: renderNum ns) =
      .ok [.mk .ge (renderNum ns), .mk .lt (renderNum (ns.take i ++ [ns[i] + 1]) ++ ['-'])] := by
  have hne := List.ne_nil_of_length_pos (Nat.zero_lt_of_lt hi)
  obtain ⟨hs, hl⟩ := safeV_renderNum ns hne
  obtain ⟨x, hx, hsx, hlen, hfirst, hub⟩ := hp.version ns hne
  obtain ⟨y, hy, hsy⟩ := hp.bound (ns.take i ++ [ns[i] + 1])
  have hu : o.upperBound x i = .ok (renderNum (ns.take i ++ [ns[i] + 1]) ++ ['-']) := by
    rw [hub]
    simp only [numOps, numItems_renderNum ns hne, dif_pos hi]
  rcases hidx with ⟨rfl, hidx⟩ | ⟨rfl, hidx⟩
  · rw [conan_tilde_exact o _ hs hl x hx _ (by rw [tildeIndex, hlen, hidx]; exact hu)]
    simp only [toCons, hsx, hx, hy, hsy]
  · rw [conan_caret_exact o _ hs hl x hx _ (by rw [hfirst, hidx]; exact hu)]
    simp only [toCons, hsx, hx, hy, hsy]

theorem Plain.caret_zero (hp : Plain o) (ns : List Nat) (hne : ns ≠ []) (hz : ∀ n ∈ ns, n = 0) :
    fromNative o ('^' :: renderNum ns) =
      .ok [.mk .ge (renderNum ns),
        .mk .lt (renderNum (ns.take (ns.length - 1) ++ [1]) ++ ['-'])] := by
  have hi : ns.length - 1 < ns.length := by rw [← firstNZ_zeros ns hz]; exact firstNZ_lt ns hne
  rw [hp.bump '^' ns _ hi (.inr ⟨rfl, firstNZ_zeros ns hz⟩), hz _ (List.getElem_mem hi)]

theorem Plain.comparators (hp : Plain o) (c : Cmpr) (ns : List Nat) (hne : ns ≠ []) (t : List Char)
    (hs : Expr.Spelled (.cmp c (renderNum ns)) t) (hc : c ≠ .ne) :
    fromNative o t = .ok [.mk c (renderNum ns)] := by
  obtain ⟨hsafe, hl⟩ := safeV_renderNum ns hne
  obtain ⟨x, hx, hsx, -⟩ := hp.version ns hne
  rw [conan_comparators_exact o c _ t hs hc hsafe hl x hx]
  simp only [toCons, hsx, hx]

theorem plain_numOps : Plain numOps where
  version ns hne := by
    refine ⟨_, rfl, rfl, ?_, ?_, fun _ => rfl⟩
    · exact (congrArg List.length (splitOn_renderNum ns hne)).trans (List.length_map _)
    · simp only [numOps, numItems_renderNum ns hne]
  bound _ := ⟨_, rfl, rfl⟩

end plain

section numeric

/-- `~a.b.…` is `>=a.b.… <a.(b+1)-`, NOT `<a.(b+1).0-`: the
`items.extend([0] * (len(items) - index - 1))` of `upper_bound` adds nothing -/
theorem conan_tilde_num (a b : Nat) (rest : List Nat) :
    fromNative numOps ('~' :: renderNum (a :: b :: rest)) =
      .ok [.mk .ge (renderNum (a :: b :: rest)), .mk .lt (renderNum [a, b + 1] ++ ['-'])] :=
  plain_numOps.bump '~' (a :: b :: rest) 1 (by simp) (.inl ⟨rfl, by simp⟩)

theorem conan_tilde_num_one (a : Nat) :
    fromNative numOps ('~' :: renderNum [a]) =
      .ok [.mk .ge (renderNum [a]), .mk .lt (renderNum [a + 1] ++ ['-'])] :=
  plain_numOps.bump '~' [a] 0 (by simp) (.inl ⟨rfl, rfl⟩)

theorem conan_caret_num (ns : List Nat) (i : Nat) (hi : i < ns.length)
    (hfirst : firstNZ ns = i) :
    fromNative numOps ('^' :: renderNum ns) =
      .ok [.mk .ge (renderNum ns), .mk .lt (renderNum (ns.take i ++ [ns[i] + 1]) ++ ['-'])] :=
  plain_numOps.bump '^' ns i hi (.inr ⟨rfl, hfirst⟩)

/-- `^0`, `^0.0`, … (an `IndexError` before the fix): the last item is bumped -/
theorem conan_caret_zero_num (ns : List Nat) (hne : ns ≠ []) (hz : ∀ n ∈ ns, n = 0) :
    fromNative numOps ('^' :: renderNum ns) =
      .ok [.mk .ge (renderNum ns),
        .mk .lt (renderNum (ns.take (ns.length - 1) ++ [1]) ++ ['-'])] :=
  plain_numOps.caret_zero ns hne hz

instance conDecEq : DecidableEq TCon
  | .star, .star => isTrue rfl
  | .star, .mk _ _ | .mk _ _, .star => isFalse nofun
  | .mk c v, .mk c' v' => decidable_of_iff _ (Iff.of_eq (Con.mk.injEq c v c' v').symm)

instance exceptDecEq {ε α : Type} [DecidableEq ε] [DecidableEq α] : DecidableEq (Except ε α)
  | .ok a, .ok b => decidable_of_iff _ (Iff.of_eq (Except.ok.injEq a b).symm)
  | .error a, .error b => decidable_of_iff _ (Iff.of_eq (Except.error.injEq a b).symm)
  | .ok _, .error _ | .error _, .ok _ => isFalse nofun

example : fromNative numOps "~1.2.3".toList = .ok [.mk .ge "1.2.3".toList, .mk .lt "1.3-".toList] :=
  (conan_tilde_num 1 2 [3]).trans (by decide +kernel)

example : fromNative numOps "^1.2.3".toList = .ok [.mk .ge "1.2.3".toList, .mk .lt "2-".toList] :=
  (conan_caret_num [1, 2, 3] 0 (by decide) (by decide)).trans (by decide +kernel)

example : fromNative numOps "^0.1.2".toList = .ok [.mk .ge "0.1.2".toList, .mk .lt "0.2-".toList] :=
  (conan_caret_num [0, 1, 2] 1 (by decide) (by decide)).trans (by decide +kernel)

end numeric


/-- `ConanVersion` as the converter uses it, from the Layer-A model `Univers.Conan`.  The same
definition as `conanOps` of `Univers/Driver/MavenConan.lean`, which is what the correspondence
check runs against the real code. -/
def realOps : ConanOps Conan.Raw where
  make t :=
    match Conan.construct t with
    | .ok r => .ok r
    | .error .invalid => .error .InvalidVersion
    | .error (.other n) => .error (.other n)
  str := Conan.str
  mainLen v := v.items.length
  firstNonZero v :=
    let i := v.items.findIdx (fun it => it != .int 0)
    if i = v.items.length then v.items.length - 1 else i
  upperBound v i :=
    match Conan.upperBound v i with
    | .ok u => .ok (Conan.str u)
    | .error .indexError => .error .IndexError
    | .error .conanException => .error errConan

theorem items_parse_pos (s : List Char) : 0 < (Conan.parse s).items.length := by
  have key : ∀ t : List Char, 0 < ((Conan.splitOn '.' t).map Conan.mkItem).length := fun t => by
    rw [List.length_map]
    fun_cases Conan.splitOn '.' t <;> exact Nat.succ_pos _
  rw [Conan.parse_eq, Conan.parseStep]
  split <;> split <;> exact key _

theorem tildeIndex_lt {V : Type} (o : ConanOps V) (v : V) (h : 0 < o.mainLen v) :
    tildeIndex o v < o.mainLen v := by
  unfold tildeIndex
  split <;> assumption

theorem realOps_firstNonZero_lt (v : Conan.Raw) (h : 0 < v.items.length) :
    realOps.firstNonZero v < v.items.length :=
  index_or_last_lt h List.findIdx_le_length

theorem realOps_upperBound_error {v : Conan.Raw} {i : Nat} (hi : i < v.items.length) {e : TErr}
    (he : realOps.upperBound v i = .error e) : e = errConan := by
  simp only [realOps, Conan.upperBound, Conan.bumpStr, List.getElem?_eq_getElem hi] at he
  cases hs : (v.items[i]).succ? with
  | none => rw [hs] at he; cases he; rfl
  | some n => rw [hs] at he; cases he

/-- C16 with the real version class: a result or `ConanException`, nothing else
(`ConanVersion(...)` accepts every text; the two indices passed to `upper_bound` are inside
`main`) -/
theorem conan_declared_real (t : List Char) :
    (∃ cs, fromNative realOps t = .ok cs) ∨ fromNative realOps t = .error errConan := by
  rcases conan_declared realOps t with h | h | ⟨err, herr, ⟨_, hv⟩ | ⟨t', v, hm, hu⟩⟩
  · exact .inl h
  · exact .inr h
  · cases hv
  · cases hm
    have hpos := items_parse_pos (Conan.normalize t')
    right
    rw [herr]
    rcases hu with hu | hu
    · rw [realOps_upperBound_error (tildeIndex_lt realOps _ hpos) hu]
    · rw [realOps_upperBound_error (realOps_firstNonZero_lt _ hpos) hu]

/-- the former `IndexError` witnesses with the real version class, and `ConanException` -/
theorem conan_fixed_examples_real :
    fromNative realOps ">".toList = .error errConan ∧
    fromNative realOps "^0".toList = .ok [.mk .ge "0".toList, .mk .lt "1-".toList] ∧
    fromNative realOps "^0.0".toList = .ok [.mk .ge "0.0".toList, .mk .lt "0.1-".toList] ∧
    fromNative realOps "^0.0.0".toList = .ok [.mk .ge "0.0.0".toList, .mk .lt "0.0.1-".toList] ∧
    fromNative realOps ">=".toList = .error errConan ∧
    fromNative realOps "~abc".toList = .error errConan := by
  decide +kernel

theorem conan_examples_real :
    fromNative realOps "~1.2.3".toList = .ok [.mk .ge "1.2.3".toList, .mk .lt "1.3-".toList] ∧
    fromNative realOps "~1".toList = .ok [.mk .ge "1".toList, .mk .lt "2-".toList] ∧
    fromNative realOps "^1.2.3".toList = .ok [.mk .ge "1.2.3".toList, .mk .lt "2-".toList] ∧
    fromNative realOps "^0.1.2".toList = .ok [.mk .ge "0.1.2".toList, .mk .lt "0.2-".toList] ∧
    fromNative realOps "^0.0.1".toList = .ok [.mk .ge "0.0.1".toList, .mk .lt "0.0.2-".toList] ∧
    fromNative realOps "~1.2.3-pre".toList =
      .ok [.mk .ge "1.2.3-pre".toList, .mk .lt "1.3-".toList] ∧
    fromNative realOps ">1 <2- || ^3.1, include_prerelease=True".toList =
      .ok [.mk .gt "1".toList, .mk .lt "2".toList, .mk .ge "3.1".toList, .mk .lt "4-".toList] ∧
    fromNative realOps "*".toList = .ok [.mk .ge "0.0.0".toList] ∧
    fromNative realOps "".toList = .ok [] := by
  decide +kernel


section bridge

theorem conan_joinDots_eq (ps : List (List Char)) : Conan.joinDots ps = joinDots ps := by
  induction ps with
  | nil => rfl
  | cons p ps ih =>
    cases ps with
    | nil => rfl
    | cons q qs => rw [Conan.joinDots, joinDots, ih] <;> exact fun h => nomatch h

theorem normalize_numChars {t : List Char} (h : ∀ c ∈ t, numChar c = true) :
    Conan.normalize t = t := by
  rw [Conan.normalize, List.filter_eq_self.2 fun c hc => by rw [(numChar_spec (h c hc)).2.1]; rfl]
  cases t with
  | nil => rfl
  | cons c cs =>
    have := numChar_spec (h c List.mem_cons_self)
    simp [this.2.2.1, this.2.2.2]

theorem make_numChars {t : List Char} (h : ∀ c ∈ t, numChar c = true) :
    realOps.make t = .ok (Conan.parse t) := by
  simp [realOps, Conan.construct, normalize_numChars h]

theorem parse_renderNum (ns : List Nat) (hne : ns ≠ []) :
    Conan.parse (renderNum ns) = .ver (renderNum ns) (Conan.natItems ns) .none .none := by
  rw [renderNum, ← conan_joinDots_eq]; exact Conan.parse_natDots ns hne

theorem intStr_ofNat (n : Nat) : Conan.intStr (Int.ofNat n) = natStr n := rfl

theorem upperBound_renderNum (ns : List Nat) (hne : ns ≠ []) (i : Nat) :
    realOps.upperBound (Conan.parse (renderNum ns)) i = numOps.upperBound (renderNum ns) i := by
  simp only [realOps, numOps, numItems_renderNum ns hne, Conan.upperBound, Conan.bumpStr,
    parse_renderNum ns hne, Conan.OV.items, Conan.natItems, List.getElem?_map]
  by_cases hi : i < ns.length
  · simp only [List.getElem?_eq_getElem hi, Option.map_some, Conan.Item.succ?, dif_pos hi, Except.map,
      Conan.str_parse, conan_joinDots_eq, renderNum, List.map_append, List.map_take, List.map_map]
    -- what is left: the items print as their numbers, and `Int.ofNat k + 1` is `Int.ofNat (k + 1)`
    rfl
  · simp [List.getElem?_eq_none (Nat.le_of_not_lt hi), dif_neg hi, Except.map]

theorem findIdx_items (ns : List Nat) :
    (Conan.natItems ns).findIdx (fun it => it != .int 0) = ns.findIdx (fun n => n != 0) := by
  rw [Conan.natItems, List.findIdx_map]
  congr 1
  funext n
  cases n <;> rfl

theorem plain_realOps : Plain realOps where
  version ns hne := by
    refine ⟨_, make_numChars (renderNum_numChars ns), Conan.str_parse _, ?_, ?_,
      upperBound_renderNum ns hne⟩
    · simp only [realOps, parse_renderNum ns hne, Conan.OV.items, Conan.natItems, List.length_map]
    · simp only [realOps, parse_renderNum ns hne, Conan.OV.items, findIdx_items]
      simp only [Conan.natItems, List.length_map, firstNZ]
  bound ns := ⟨_, make_numChars (renderNum_dash_numChars ns), Conan.str_parse _⟩

theorem conan_tilde_real (a b : Nat) (rest : List Nat) :
    fromNative realOps ('~' :: renderNum (a :: b :: rest)) =
      .ok [.mk .ge (renderNum (a :: b :: rest)), .mk .lt (renderNum [a, b + 1] ++ ['-'])] :=
  plain_realOps.bump '~' (a :: b :: rest) 1 (by simp) (.inl ⟨rfl, by simp⟩)

theorem conan_caret_real (ns : List Nat) (i : Nat) (hi : i < ns.length)
    (hfirst : firstNZ ns = i) :
    fromNative realOps ('^' :: renderNum ns) =
      .ok [.mk .ge (renderNum ns), .mk .lt (renderNum (ns.take i ++ [ns[i] + 1]) ++ ['-'])] :=
  plain_realOps.bump '^' ns i hi (.inr ⟨rfl, hfirst⟩)

/-- `^0`, `^0.0`, … (an `IndexError` before the fix) -/
theorem conan_caret_zero_real (ns : List Nat) (hne : ns ≠ []) (hz : ∀ n ∈ ns, n = 0) :
    fromNative realOps ('^' :: renderNum ns) =
      .ok [.mk .ge (renderNum ns),
        .mk .lt (renderNum (ns.take (ns.length - 1) ++ [1]) ++ ['-'])] :=
  plain_realOps.caret_zero ns hne hz

theorem conan_tilde_one_real (a : Nat) :
    fromNative realOps ('~' :: renderNum [a]) =
      .ok [.mk .ge (renderNum [a]), .mk .lt (renderNum [a + 1] ++ ['-'])] :=
  plain_realOps.bump '~' [a] 0 (by simp) (.inl ⟨rfl, rfl⟩)

theorem conan_comparators_real (c : Cmpr) (ns : List Nat) (hne : ns ≠ []) (t : List Char)
    (hs : Expr.Spelled (.cmp c (renderNum ns)) t) (hc : c ≠ .ne) :
    fromNative realOps t = .ok [.mk c (renderNum ns)] :=
  plain_realOps.comparators c ns hne t hs hc

end bridge

end Univers.Text.ConanRange
