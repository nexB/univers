/-
`PypiVersionRange.from_native` (`Univers/Text/PypiNative.lean`): its only error is the declared one
(C16), and it is exact (C06) on the notation read declaratively: a comma-separated list of clauses
`<op><version>` with `op ∈ {==, !=, <=, >=, <, >}`; SPACE characters are insignificant anywhere (the
converter deletes them all before parsing); every clause states one vers constraint, `==` ↦ `=`.
-/
import Univers.Text.PypiNative
import Univers.Text.GemReqThm
import Univers.Scheme.GemThm
import Univers.Text.Str

namespace Univers.Text.PypiNative

open Univers Univers.Text Univers.Text.GP

/-- `from_native` up to its loop: the specifiers of the text, `none` when the text is refused -/
def parsed (s : List Char) : Option (List (SOp × List Char)) :=
  if s.contains ';' then none
  else if unsupportedChars.any (fun c => (s.filter (· != ' ')).contains c) then none
  else specifierSet (s.filter (· != ' '))

theorem fromNative_eq (mkVer : List Char → Except TErr (List Char)) (s : List Char) :
    fromNative mkVer s = match parsed s with
      | none => .error .InvalidVersionRange
      | some specs =>
        if (specs.map (loopBody mkVer)).any Option.isNone then .error .InvalidVersionRange
        else .ok ((specs.map (loopBody mkVer)).filterMap id) := by
  unfold fromNative parsed
  by_cases h1 : s.contains ';' = true
  · rw [if_pos h1, if_pos h1]
  · rw [if_neg h1, if_neg h1]
    dsimp only
    split
    · rfl
    · cases specifierSet (s.filter (· != ' ')) <;> rfl

/-- C16: whatever the text and whatever the version constructor does,
`PypiVersionRange.from_native` returns or raises `InvalidVersionRange` — nothing else
(the `try … except:` around the version constructor is bare) -/
theorem pypi_native_declared (mkVer : List Char → Except TErr (List Char)) (s : List Char) :
    (∃ cs, fromNative mkVer s = .ok cs) ∨ fromNative mkVer s = .error .InvalidVersionRange := by
  rw [fromNative_eq]
  cases parsed s with
  | none => exact .inr rfl
  | some specs =>
    dsimp only
    split
    · exact .inr rfl
    · exact .inl ⟨_, rfl⟩

/-- a specifier the loop refuses without calling the version constructor -/
def refused (sp : SOp × List Char) : Bool :=
  sp.1 == .compatible || sp.1 == .arbitrary || endsWith ".*".toList sp.2

theorem fromNative_rejects (mkVer : List Char → Except TErr (List Char)) (s : List Char)
    (h : (parsed s).all (·.any refused) = true) :
    fromNative mkVer s = .error .InvalidVersionRange := by
  rw [fromNative_eq]
  revert h
  cases parsed s with
  | none => exact fun _ => rfl
  | some specs =>
    intro h
    obtain ⟨sp, hsp, hr⟩ := List.any_eq_true.1 h
    refine if_pos (List.any_eq_true.2 ⟨_, List.mem_map_of_mem hsp, ?_⟩)
    rw [refused, Bool.or_eq_true] at hr
    unfold loopBody
    split
    · rfl
    · rw [if_pos (hr.resolve_left ‹_›)]; rfl

/-- `~=`, `===` and `.*` are valid PEP 440 but unsupported; a marker or a bare version is no specifier -/
theorem pypi_native_unsupported (mkVer : List Char → Except TErr (List Char)) :
    fromNative mkVer "~=1.0".toList = .error .InvalidVersionRange
    ∧ fromNative mkVer "===1.0".toList = .error .InvalidVersionRange
    ∧ fromNative mkVer "==1.0.*".toList = .error .InvalidVersionRange
    ∧ fromNative mkVer ">=1.0;python_version<'3'".toList = .error .InvalidVersionRange
    ∧ fromNative mkVer "1.0".toList = .error .InvalidVersionRange :=
  have rej := fromNative_rejects mkVer
  ⟨rej _ (by decide +kernel), rej _ (by decide +kernel), rej _ (by decide +kernel),
    rej _ (by decide +kernel), rej _ (by decide +kernel)⟩

/-- a clause `<op><version>`, the operator given as the vers comparator it becomes -/
structure PClause where
  op : Cmpr
  ver : List Char

def sopOf : Cmpr → SOp
  | .eq => .eq | .ne => .ne | .le => .le | .ge => .ge | .lt => .lt | .gt => .gt

def PClause.core (c : PClause) : List Char := (sopOf c.op).text ++ c.ver

def safeVer (ver : List Char) : Bool :=
  !ver.isEmpty
  && ver.all (fun c => !isSp c && c != ',' && c != ';' && !unsupportedChars.contains c)
  && ver.head? != some '='
  && !endsWith ".*".toList ver

/-- `Specifier._regex` decides which version goes with which operator (no local version after an
ordered comparison, …) -/
def PClause.ok (c : PClause) : Bool := safeVer c.ver && specifierRegex.fullmatch c.core

/-- `",".join(parts)` -/
def joinComma : List (List Char) → List Char
  | [] => []
  | [p] => p
  | p :: q :: rest => p ++ ',' :: joinComma (q :: rest)

/-- `str(PypiVersion(text))` when the constructor accepts the text -/
def verOf (mkVer : List Char → Except TErr (List Char)) (ver : List Char) : List Char :=
  match mkVer ver with | .ok v => v | .error _ => ver

example : (PClause.mk .ge "1.0rc1".toList).ok = true := by decide +kernel
example : (PClause.mk .eq "1.0+local".toList).ok = true := by decide +kernel
example : (PClause.mk .ge "1.0+local".toList).ok = false := by decide +kernel

theorem joinComma_eq (ps : List (List Char)) : joinComma ps = Str.join [','] ps := by
  induction ps with
  | nil => rfl
  | cons p ps ih =>
    cases ps with
    | nil => rfl
    | cons q qs => rw [joinComma, ih, Str.join, List.append_assoc]; rfl

theorem core_chars (c : PClause) (h : c.ok = true) : ∀ x ∈ c.core,
    isSp x = false ∧ x ≠ ',' ∧ unsupportedChars.contains x = false := by
  have hop : ∀ x ∈ (sopOf c.op).text,
      isSp x = false ∧ x ≠ ',' ∧ unsupportedChars.contains x = false := by cases c.op <;> decide
  intro x hx
  rcases List.mem_append.1 hx with hx | hx
  · exact hop x hx
  · simp only [PClause.ok, safeVer, Bool.and_eq_true, List.all_eq_true, Bool.not_eq_true',
      bne_iff_ne, ne_eq] at h
    have := h.1.1.1.2 x hx
    exact ⟨this.1.1.1, this.1.1.2, this.2⟩

theorem strip_noSp (s : List Char) (h : ∀ x ∈ s, isSp x = false) : strip s = s :=
  Gem.strip_of_noSpace s (by simpa [Gem.noSpace] using h)

/-- the `startswith` tests of `Specifier.__init__` cannot take a longer operator because the version
does not begin with `=` -/
theorem specifier_core (c : PClause) (h : c.ok = true) :
    specifier c.core = some (sopOf c.op, c.ver) := by
  have hs := strip_noSp c.core fun x hx => (core_chars c h x hx).1
  have hv := strip_noSp c.ver fun x hx => (core_chars c h x (List.mem_append_right _ hx)).1
  simp only [PClause.ok, safeVer, Bool.and_eq_true, bne_iff_ne, ne_eq] at h
  rw [specifier, h.2, hs]
  obtain ⟨o, v⟩ := c
  cases v with
  | nil => cases h.1.1.1.1
  | cons a r =>
    have ha : ¬ '=' = a := fun e => h.1.1.2 (e ▸ rfl)
    cases o <;>
      simp [PClause.core, sopOf, SOp.text, splitSpec, startsWith, List.isPrefixOf, hv, ha]

theorem loopBody_core (mkVer : List Char → Except TErr (List Char)) (c : PClause) (h : c.ok = true)
    (hv : ∃ v, mkVer c.ver = .ok v) :
    loopBody mkVer (sopOf c.op, c.ver) = some (.mk c.op (verOf mkVer c.ver)) := by
  obtain ⟨v, hv⟩ := hv
  have hw : endsWith ".*".toList c.ver = false := by
    simp only [PClause.ok, safeVer, Bool.and_eq_true, Bool.not_eq_true'] at h
    exact h.1.2
  have ho : (sopOf c.op == .compatible || sopOf c.op == .arbitrary) = false ∧
      (sopOf c.op).cmpr? = some c.op := by cases c.op <;> exact ⟨rfl, rfl⟩
  simp only [loopBody, verOf, ho.1, ho.2, hw, hv, Bool.false_eq_true, ↓reduceIte]

theorem specifiers_cores (cs : List PClause) (hok : ∀ c ∈ cs, c.ok = true) :
    specifiers (cs.map PClause.core) = some (cs.map (fun c => (sopOf c.op, c.ver))) := by
  induction cs with
  | nil => rfl
  | cons c r ih =>
    simp only [List.map_cons, specifiers, specifier_core c (hok c List.mem_cons_self),
      ih fun d hd => hok d (List.mem_cons_of_mem _ hd)]

theorem parsed_cores (cs : List PClause) (t : List Char)
    (ht : t.filter (fun x => x != ' ') = joinComma (cs.map PClause.core))
    (hok : ∀ c ∈ cs, c.ok = true) :
    parsed t = some (cs.map (fun c => (sopOf c.op, c.ver))) := by
  have hcore : ∀ p ∈ cs.map PClause.core, ∀ x ∈ p,
      isSp x = false ∧ x ≠ ',' ∧ unsupportedChars.contains x = false := fun p hp => by
    obtain ⟨c, hc, rfl⟩ := List.mem_map.1 hp
    exact core_chars c (hok c hc)
  have h2 :
      ¬ unsupportedChars.any (fun c => (joinComma (cs.map PClause.core)).contains c) = true := by
    rw [List.any_eq_true]
    rintro ⟨u, hu, hcon⟩
    rcases Str.mem_join (joinComma_eq _ ▸ List.contains_iff_mem.1 hcon) with hx | ⟨p, hp, hxp⟩
    · cases List.mem_singleton.1 hx; revert hu; decide
    · rw [← List.contains_iff_mem, (hcore p hp u hxp).2.2] at hu; cases hu
  have h1 : ¬ t.contains ';' = true := fun hc => h2 (List.any_eq_true.2 ⟨';', by decide,
    ht ▸ List.contains_iff_mem.2 (List.mem_filter.2 ⟨List.contains_iff_mem.1 hc, rfl⟩)⟩)
  -- `split_specifiers` gives the cores back: they hold no comma, have nothing to strip, are not empty
  have hcomma : ∀ p ∈ cs.map PClause.core, ',' ∉ p := fun p hp hx => (hcore p hp _ hx).2.1 rfl
  have hstrip : ∀ c ∈ cs, strip c.core = c.core := fun c hc =>
    strip_noSp _ fun x hx => (core_chars c (hok c hc) x hx).1
  have hfull : ∀ p ∈ cs.map PClause.core, (!p.isEmpty) = true := fun p hp => by
    obtain ⟨c, _, rfl⟩ := List.mem_map.1 hp
    cases c with | mk o v => cases o <;> simp [PClause.core, sopOf, SOp.text]
  rw [parsed, if_neg h1, ht, if_neg h2, specifierSet, splitSpecifiers]
  cases cs with
  | nil => rfl
  | cons c0 r0 =>
    rw [joinComma_eq, GemReq.splitOn_eq, Str.splitChar_join (by simp) hcomma, List.map_map,
      List.map_congr_left (f := strip ∘ PClause.core) hstrip, List.filter_eq_self.2 hfull]
    exact specifiers_cores _ hok

/-- C06, pypi part: for admissible clauses whose version texts the version constructor accepts, and
EVERY text that is the comma-joined clauses with SPACE characters inserted anywhere, `from_native`
returns exactly the stated constraints, in order (duplicates included) -/
theorem pypi_native_exact (mkVer : List Char → Except TErr (List Char)) (cs : List PClause)
    (t : List Char) (ht : t.filter (fun x => x != ' ') = joinComma (cs.map PClause.core))
    (hok : ∀ c ∈ cs, c.ok = true) (hv : ∀ c ∈ cs, ∃ v, mkVer c.ver = .ok v) :
    fromNative mkVer t = .ok (cs.map (fun c => Con.mk c.op (verOf mkVer c.ver))) := by
  have h4 : (cs.map (fun c => (sopOf c.op, c.ver))).map (loopBody mkVer)
      = cs.map (fun c => some (Con.mk c.op (verOf mkVer c.ver))) := by
    rw [List.map_map]
    exact List.map_congr_left fun c hc => by
      rw [Function.comp, loopBody_core mkVer c (hok c hc) (hv c hc)]
  rw [fromNative_eq, parsed_cores cs t ht hok]
  simp [h4, List.filterMap_map]

/-! ### what the flat vers model cannot express

PEP 440 matching is not the conjunction of plain order comparisons: `<2.0` EXCLUDES the
pre-releases `2.0rc1`, `2.0.dev1` of the bound although they sort below it; `>1.0` excludes
`1.0.post1` and `1.0+local`; `==` and `!=` ignore a local version label of the candidate; and
pre-releases are excluded from every specifier unless requested.  The converter's vers range uses the
plain order of `PypiVersion`, so the C06 membership property for pypi probes only final RELEASE
versions (no pre/post/dev/local part), on which the two agree. -/

end Univers.Text.PypiNative
