/-
The operator shapes of Layer P (`Py/Attrs.lean`) keep the six operators the views of one
three-way comparison: this is the step from a scheme's comparison routine to property C02, the
same for every scheme whose `Version` class gets its dunders from attrs or `total_ordering`.
-/
import Univers.Py.Attrs
import Univers.Vers.Spec

namespace Univers.Py

open Univers

variable {R : Type} {cmp : R → R → Ordering}

theorem lawful_opsOfSign (sign : R → R → Ordering) : Lawful (opsOfSign sign) sign :=
  ⟨fun _ _ => rfl, fun _ _ => rfl, fun _ _ => rfl, fun _ _ => rfl, fun _ _ => rfl, fun _ _ => rfl⟩

/-- each generated operator is a Boolean combination of views of the same comparison: checked on
the three signs -/
theorem lawful_attrs {v : VOps R} (h : Lawful v cmp) : Lawful (attrsOps v) cmp := by
  constructor <;> intro a b <;> simp only [attrsOps, h.eq, h.lt, h.gt, h.le, h.ge] <;>
    cases cmp a b <;> rfl

theorem lawful_totalOrdering {lt eq : R → R → Bool}
    (hlt : ∀ a b, lt a b = (cmp a b == .lt)) (heq : ∀ a b, eq a b = (cmp a b == .eq)) :
    Lawful (totalOrderingFromLt lt eq) cmp := by
  constructor <;> intro a b <;> simp only [totalOrderingFromLt, hlt, heq] <;>
    cases cmp a b <;> rfl

end Univers.Py
