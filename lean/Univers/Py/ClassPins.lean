/-
The class table regenerated from /repo (`Gen.versionClasses`: for each comparison dunder of each `Version` subclass,
whether attrs generated it or it is written by hand, the shape of its `isinstance` guard, the attrs flags and field
lists) is the one the scheme models were written against.  A proof obligation over generated data: removing, adding or
replacing a dunder in /repo (say, deleting a hand-written `__le__` so that the attrs one takes over) makes this module
fail to check even when no sampled pair shows a difference.

What is pinned is what the models rest on: per class and dunder, its ORIGIN (attrs / hand-written / inherited `__ne__`)
and its GUARD.  Which class of the hierarchy the `def` sits in is not pinned (the guards are read by behaviour, so a
mix-in that carries the same hand-written methods gives the same table), and a class the table does not know yet may be
added as long as its row has one of the three shapes the library uses.
-/
import Univers.Gen.Classes

namespace Univers.Py

/-- per class: [frozen], eq fields, order fields, hash fields, then [dunder, origin, guard] … -/
def rowShape (c : Univers.Gen.PyClass) : List (List String) :=
  [toString c.frozen] :: c.eqFields :: c.orderFields :: c.hashFields ::
    c.dunders.map (fun d => [d.name, d.origin, d.guard])

def classShapes : List (String × List (List String)) :=
  Univers.Gen.versionClasses.map (fun c => (c.name, rowShape c))

/-- every comparison dunder and `__hash__` generated by attrs on `Version` -/
def shapeAttrs : List (List String) :=
  [["true"], ["value"], ["value"], ["value"],
   ["__eq__", "attrs", "classIs"], ["__ne__", "attrs_ne", "inherit"], ["__lt__", "attrs", "classIs"],
   ["__le__", "attrs", "classIs"], ["__gt__", "attrs", "classIs"], ["__ge__", "attrs", "classIs"],
   ["__hash__", "attrs", "classIs"]]

/-- `__eq__`, the four orderings and `__hash__` written by hand, guarded by `isinstance(other, self.__class__)` -/
def shapeHand : List (List String) :=
  [["true"], ["value"], ["value"], ["value"],
   ["__eq__", "hand", "isinstanceSelfClass"], ["__ne__", "attrs_ne", "inherit"], ["__lt__", "hand", "isinstanceSelfClass"],
   ["__le__", "hand", "isinstanceSelfClass"], ["__gt__", "hand", "isinstanceSelfClass"], ["__ge__", "hand", "isinstanceSelfClass"],
   ["__hash__", "hand", "none"]]

/-- the four orderings written by hand, `__eq__` and `__hash__` of attrs -/
def shapeHandOrder : List (List String) :=
  [["true"], ["value"], ["value"], ["value"],
   ["__eq__", "attrs", "classIs"], ["__ne__", "attrs_ne", "inherit"], ["__lt__", "hand", "isinstanceSelfClass"],
   ["__le__", "hand", "isinstanceSelfClass"], ["__gt__", "hand", "isinstanceSelfClass"], ["__ge__", "hand", "isinstanceSelfClass"],
   ["__hash__", "attrs", "classIs"]]

def knownClasses : List (String × List (List String)) :=
  [("Version", shapeAttrs), ("AlpineLinuxVersion", shapeHand), ("ArchLinuxVersion", shapeHand),
   ("ComposerVersion", shapeAttrs), ("ConanVersion", shapeAttrs), ("DebianVersion", shapeAttrs),
   ("GenericVersion", shapeAttrs), ("GentooVersion", shapeHand), ("GolangVersion", shapeAttrs),
   ("LegacyOpensslVersion", shapeHandOrder), ("MavenVersion", shapeAttrs), ("NginxVersion", shapeAttrs),
   ("NugetVersion", shapeAttrs), ("OpensslVersion", shapeHand), ("PypiVersion", shapeAttrs), ("RpmVersion", shapeAttrs),
   ("RubygemsVersion", shapeAttrs), ("SemverVersion", shapeAttrs)]

theorem class_table_pinned : ∀ p ∈ knownClasses, classShapes.lookup p.1 = some p.2 := by decide +kernel

theorem class_table_shapes : ∀ p ∈ classShapes, p.2 = shapeAttrs ∨ p.2 = shapeHand ∨ p.2 = shapeHandOrder := by
  decide +kernel

example : knownClasses.length = 18 ∧ classShapes.length ≥ 18 := by decide

end Univers.Py
