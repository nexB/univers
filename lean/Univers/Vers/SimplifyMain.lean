/-
Helper proofs for C08, part 4: a reduced list of "=" and bounds passes the two rules of
validation.
-/
import Univers.Vers.SimplifyFold

namespace Univers

variable {V : Type}

/-- only "=", and bounds (what is left once "!=" is filtered out of a star-free list) -/
def plain (l : List (Con V)) : Prop := ∀ c ∈ l, (c.isEq || c.isBound) = true

theorem plain_filter_notNe (cs : List (Con V)) (hns : noStar cs = true) :
    plain (cs.filter (fun c => !c.isNe)) := by
  intro c hc
  obtain ⟨hm, hn⟩ := List.mem_filter.mp hc
  rw [Con.isBound_eq_of_not_star (noStar_iff.mp hns c hm), (Bool.not_eq_true' _).mp hn,
    Bool.or_false]
  exact Bool.or_not_self _

theorem filter_isBound_filter_notNe (l : List (Con V)) :
    (l.filter fun c => !c.isNe).filter Con.isBound = l.filter Con.isBound := by
  rw [List.filter_filter]
  refine List.filter_congr fun c _ => ?_
  cases hn : c.isNe with
  | false => exact Bool.and_true _
  | true => rw [Con.not_isBound_of_isNe hn]; rfl

theorem eqPairs_of_red : ∀ (l : List (Con V)), redFwd l = true →
    (pairwise l).all (fun p => !(p.1.isEq && p.2.isUpper)) = true
  | [], _ => rfl
  | [_], _ => rfl
  | a :: b :: t, h => by
    obtain ⟨hab, ht⟩ := Bool.and_eq_true_iff.mp h
    rw [pairwise, List.all_cons, eqPairs_of_red (b :: t) ht, Bool.and_true]
    cases hu : b.isUpper with
    | false => exact congrArg (!·) (Bool.and_false _)
    | true =>
      rw [okPair_upper hu, Bool.not_eq_true', Bool.or_eq_false_iff] at hab
      rw [hab.1]; rfl

theorem isLower_eq_isUpper_of_okPair {a c : Con V} (h : okPair a c = true)
    (ha : (a.isEq || a.isBound) = true) (hc : (c.isEq || c.isBound) = true) :
    a.isLower = c.isUpper := by
  cases hu : c.isUpper with
  | true =>
    rw [okPair_upper hu, Bool.not_eq_true', Bool.or_eq_false_iff] at h
    rw [h.1, Bool.false_or, Con.isBound, h.2, Bool.false_or] at ha
    exact ha
  | false =>
    rw [okPair_not_upper hu, Bool.not_eq_true'] at h
    rw [Con.isBound, hu, Bool.false_or] at hc
    rw [hc, Bool.true_and] at h
    exact h

theorem firstBound_of_red : ∀ (a : Con V) (t : List (Con V)), redFwd (a :: t) = true →
    plain (a :: t) → ∀ b ∈ (t.filter Con.isBound).head?, b.isUpper = a.isLower
  | _, [], _, _, _, hb => nomatch hb
  | a, c :: t, hr, hp, b, hb => by
    obtain ⟨hac, ht⟩ := Bool.and_eq_true_iff.mp hr
    have hpc := hp c (List.mem_cons_of_mem _ List.mem_cons_self)
    have hal := isLower_eq_isUpper_of_okPair hac (hp a List.mem_cons_self) hpc
    cases hcb : c.isBound with
    | true =>
      rw [List.filter_cons_of_pos hcb] at hb
      cases hb
      exact hal.symm
    | false =>
      -- `c` is an "=": the first bound comes later
      rw [List.filter_cons_of_neg (by simp [hcb])] at hb
      obtain ⟨hcu, hcl⟩ := Bool.or_eq_false_iff.mp hcb
      rw [firstBound_of_red c t ht (fun d hd => hp d (List.mem_cons_of_mem _ hd)) b hb, hal, hcu, hcl]

theorem altB_of_red : ∀ (l : List (Con V)), redFwd l = true → plain l →
    altB (l.filter Con.isBound) = true
  | [], _, _ => rfl
  | a :: t, hr, hp => by
    have ih := altB_of_red t (redFwd_tail a t hr) fun c hc => hp c (List.mem_cons_of_mem _ hc)
    cases hab : a.isBound with
    | false => rw [List.filter_cons_of_neg (by simp [hab])]; exact ih
    | true =>
      rw [List.filter_cons_of_pos hab]
      have hfirst := firstBound_of_red a t hr hp
      cases hB : t.filter Con.isBound with
      | nil => rfl
      | cons b rest =>
        rw [hB] at ih hfirst
        rw [altB, ih, hfirst b rfl, Bool.and_true]
        rcases Con.isBound_iff.mp hab with hu | hl
        · rw [hu, Con.not_isLower_of_isUpper hu]; rfl
        · rw [hl, Con.not_isUpper_of_isLower hl]; rfl

end Univers
