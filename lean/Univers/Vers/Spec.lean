/-
Layer B — SPEC: what the properties C04, C07, C08, C09 say, stated declaratively over a
three-way comparison `cmp` of the scheme, independently of how the Python computes it.
-/
import Univers.Vers.Model

namespace Univers

variable {V : Type}

/-- The six operators are the ones induced by the three-way comparison `cmp`
(this is property C02 for the scheme). -/
structure Lawful (o : VOps V) (cmp : V → V → Ordering) : Prop where
  lt : ∀ a b, o.lt a b = (cmp a b == .lt)
  gt : ∀ a b, o.gt a b = (cmp a b == .gt)
  eq : ∀ a b, o.eq a b = (cmp a b == .eq)
  le : ∀ a b, o.le a b = (cmp a b != .gt)
  ge : ∀ a b, o.ge a b = (cmp a b != .lt)
  ne : ∀ a b, o.ne a b = (cmp a b != .eq)

/-- The operators induced by `cmp`. -/
def opsOf (cmp : V → V → Ordering) : VOps V where
  lt a b := cmp a b == .lt
  gt a b := cmp a b == .gt
  eq a b := cmp a b == .eq
  le a b := cmp a b != .gt
  ge a b := cmp a b != .lt
  ne a b := cmp a b != .eq

theorem opsOf_lawful (cmp : V → V → Ordering) : Lawful (opsOf cmp) cmp :=
  ⟨fun _ _ => rfl, fun _ _ => rfl, fun _ _ => rfl, fun _ _ => rfl, fun _ _ => rfl, fun _ _ => rfl⟩

/-- Meaning of a comparator: does `x` stand in relation `c` to the constraint version, given
`ord = cmp x v`? -/
def Cmpr.holds : Cmpr → Ordering → Bool
  | .ge, r => r != .lt
  | .le, r => r != .gt
  | .ne, r => r != .eq
  | .lt, r => r == .lt
  | .gt, r => r == .gt
  | .eq, r => r == .eq

/-- Meaning of a single constraint. -/
def Con.holds (cmp : V → V → Ordering) (x : V) : Con V → Bool
  | .star => true
  | .mk c v => c.holds (cmp x v)

/-- `x` is the constraint's version, up to the scheme's equivalence. -/
def Con.at (cmp : V → V → Ordering) (x : V) : Con V → Bool
  | .star => false
  | .mk _ v => cmp x v == .eq

/-! ### C04: the interval-set meaning -/

/-- consecutive (lower, upper) pairs; a trailing lower bound extends to +∞ -/
def inPairs (cmp : V → V → Ordering) (x : V) : List (Con V) → Bool
  | lo :: hi :: rest => (lo.holds cmp x && hi.holds cmp x) || inPairs cmp x rest
  | [lo] => lo.holds cmp x
  | [] => false

/-- the union of the intervals delimited by the bounds, read in version order: an initial
upper bound opens from −∞ -/
def inIntervals (cmp : V → V → Ordering) (x : V) : List (Con V) → Bool
  | [] => false
  | b :: rest => if b.isUpper then b.holds cmp x || inPairs cmp x rest else inPairs cmp x (b :: rest)

/-- The set a (version-sorted) constraint list denotes. -/
def denote (cmp : V → V → Ordering) (cs : List (Con V)) (x : V) : Bool :=
  match cs with
  | [] => false
  | [.star] => true
  | _ =>
    if cs.all Con.isNe then cs.all (fun c => !c.at cmp x)
    else if cs.any (fun c => c.isNe && c.at cmp x) then false
    else if cs.any (fun c => c.isEq && c.at cmp x) then true
    else inIntervals cmp x (cs.filter Con.isBound)

/-! ### C07: well-formed sequences -/

/-- versions strictly increasing (hence pairwise distinct), no star -/
def StrictSorted (cmp : V → V → Ordering) (cs : List (Con V)) : Prop :=
  cs.Pairwise (fun a b => match a, b with
    | .mk _ u, .mk _ w => cmp u w = .lt
    | _, _ => False)

/-- ignoring exclusions, an `=` is never followed by an upper bound -/
def eqRule (cs : List (Con V)) : Bool :=
  (pairwise (cs.filter (fun c => !c.isNe))).all (fun p => !(p.1.isEq && p.2.isUpper))

/-- ignoring `=` and `!=`, lower and upper bounds strictly alternate -/
def altRule (cs : List (Con V)) : Bool :=
  (pairwise (cs.filter Con.isBound)).all (fun p => p.1.isUpper != p.2.isUpper)

def noStar (cs : List (Con V)) : Bool := cs.all (fun c => !c.isStar)

/-- a version-sorted list is well-formed -/
def WFSorted (cmp : V → V → Ordering) (cs : List (Con V)) : Prop :=
  cs = [.star] ∨ (noStar cs = true ∧ StrictSorted cmp cs ∧ eqRule cs = true ∧ altRule cs = true)

/-- a list in any order is well-formed: read in version order it is `WFSorted` -/
def WF (cmp : V → V → Ordering) (cs : List (Con V)) : Prop :=
  ∃ s, s.Perm cs ∧ WFSorted cmp s

/-! ### C08: the meaning of a possibly redundant range -/

/-- A bound is a *cut* of the version line with a direction.  `>=v` and `<v` cut just below
`v`; `>v` and `<=v` cut just above `v`.  The cut of `b` lies below the point `x`: -/
def cutBelow (cmp : V → V → Ordering) (x : V) : Con V → Bool
  | .mk c v => cmp v x == .lt || (cmp v x == .eq && (c == .ge || c == .lt))
  | .star => false

/-- The cut of `b` lies above the point `x`. -/
def cutAbove (cmp : V → V → Ordering) (x : V) : Con V → Bool
  | .mk c v => cmp v x == .gt || (cmp v x == .eq && (c == .gt || c == .le))
  | .star => false

/-- Walking the version-sorted bounds upward until the first cut above `x`:
`prevUp` says whether the nearest cut below `x` points upward. -/
def regionWalk (cmp : V → V → Ordering) (x : V) : Bool → List (Con V) → Bool
  | prevUp, [] => prevUp
  | prevUp, b :: rest =>
      if cutAbove cmp x b then prevUp || b.isUpper else regionWalk cmp x b.isLower rest

/-- `x` is in the region the (version-sorted) bounds describe: the nearest cut below it points
upward or the nearest cut above it points downward. -/
def inRegion (cmp : V → V → Ordering) (x : V) (bs : List (Con V)) : Bool :=
  regionWalk cmp x false bs

/-- The set a possibly redundant (version-sorted, distinct) constraint list denotes. -/
def denoteR (cmp : V → V → Ordering) (cs : List (Con V)) (x : V) : Bool :=
  match cs with
  | [] => false
  | [.star] => true
  | _ =>
    if cs.all Con.isNe then cs.all (fun c => !c.at cmp x)
    else if cs.any (fun c => c.isNe && c.at cmp x) then false
    else if cs.any (fun c => c.isEq && c.at cmp x) then true
    else inRegion cmp x (cs.filter Con.isBound)

/-! ### C09: vacuous constraints -/

/-- every `!=` lies inside an included interval (or the range is `!=`-only) and every `=`
lies outside all intervals -/
def NonVacuous (cmp : V → V → Ordering) (cs : List (Con V)) : Prop :=
  cs.all Con.isNe = true ∨
  (∀ c ∈ cs, match c with
    | .mk .ne v => inIntervals cmp v (cs.filter Con.isBound) = true
    | .mk .eq v => inIntervals cmp v (cs.filter Con.isBound) = false
    | _ => True)

end Univers
