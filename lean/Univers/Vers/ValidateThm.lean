/-
Helper proofs for C07: `VersionConstraint.validate` accepts exactly the well-formed sequences.
-/
import Univers.Vers.SortThm

namespace Univers

open Std

variable {V : Type} {o : VOps V} {cmp : V → V → Ordering}

/-- two constraints carry "different versions" for the `set(c.version …)` test -/
def verApart (o : VOps V) (a b : Con V) : Prop := verSame o a b = false

theorem countDistinct_le (seen cs : List (Con V)) : countDistinct o seen cs ≤ cs.length := by
  induction cs generalizing seen with
  | nil => simp [countDistinct]
  | cons c rest ih =>
    simp only [countDistinct]
    split
    · have := ih seen; simp; omega
    · have := ih (c :: seen); simp; omega

theorem countDistinct_eq_length_iff (seen cs : List (Con V)) :
    countDistinct o seen cs = cs.length ↔
      (∀ c ∈ cs, ∀ s ∈ seen, verSame o s c = false) ∧ cs.Pairwise (fun a b => verSame o a b = false) := by
  induction cs generalizing seen with
  | nil => simp [countDistinct]
  | cons c rest ih =>
    have hle := countDistinct_le (o := o) seen rest
    simp only [countDistinct, List.length_cons, List.forall_mem_cons, List.pairwise_cons]
    split
    · -- `c` repeats a version already seen: the count falls short for good
      rename_i hany
      obtain ⟨s, hs, hsc⟩ := List.any_eq_true.mp hany
      constructor
      · intro h; omega
      · intro ⟨⟨h1, _⟩, _⟩; simp [h1 s hs] at hsc
    · rename_i hany
      have hnone : ∀ s ∈ seen, verSame o s c = false := fun s hs => by
        simpa using mt (fun hv => List.any_eq_true.mpr ⟨s, hs, hv⟩) hany
      rw [Nat.add_comm 1, Nat.add_right_cancel_iff, ih (c :: seen)]
      simp only [List.forall_mem_cons]
      constructor
      · intro ⟨h1, h2⟩
        exact ⟨⟨hnone, fun d hd => (h1 d hd).2⟩, fun d hd => (h1 d hd).1, h2⟩
      · intro ⟨⟨_, h1⟩, h2, h3⟩
        exact ⟨fun d hd => ⟨h2 d hd, h1 d hd⟩, h3⟩

theorem countDistinct_nil_iff (cs : List (Con V)) :
    countDistinct o [] cs = cs.length ↔ cs.Pairwise (fun a b => verSame o a b = false) := by
  rw [countDistinct_eq_length_iff]; simp

theorem verSame_symm [OrientedCmp cmp] (h : Lawful o cmp) (a b : Con V) :
    verSame o a b = verSame o b a := by
  cases a <;> cases b <;> simp [verSame, h.eq]
  rename_i c u d w
  have : cmp w u = (cmp u w).swap := OrientedCmp.eq_swap
  rw [this]; cases cmp u w <;> rfl

theorem mem_of_mem_pairwise {α} {p : α × α} : ∀ {l : List α}, p ∈ pairwise l → p.1 ∈ l ∧ p.2 ∈ l
  | a :: b :: rest, h => by
    rcases List.mem_cons.mp h with rfl | h
    · exact ⟨List.mem_cons_self, List.mem_cons_of_mem _ List.mem_cons_self⟩
    · exact ⟨List.mem_cons_of_mem _ (mem_of_mem_pairwise h).1,
        List.mem_cons_of_mem _ (mem_of_mem_pairwise h).2⟩

theorem validateComparators_noStar (cs : List (Con V)) (hns : noStar cs = true) :
    validateComparators cs = if eqRule cs && altRule cs then .ok true else .error .ValueError := by
  -- the second filter of the code keeps the bounds
  have hf2 : (cs.filter (fun c => !c.isNe)).filter (fun c => !c.isEq) = cs.filter Con.isBound := by
    rw [List.filter_filter, ← filter_bounds_of_noStar cs hns]
    exact List.filter_congr fun c _ => by rw [Bool.not_or, Bool.and_comm]
  -- the code's test after an "=": on what is neither star nor "!=", `not ("=" or lower)` is `upper`
  have hrule1 : (pairwise (cs.filter (fun c => !c.isNe))).any
      (fun p => p.1.isEq && !(p.2.isEq || p.2.isLower)) = !eqRule cs := by
    rw [eqRule, List.any_eq_not_all_not]
    refine congrArg not (all_congr_mem fun p hp => ?_)
    obtain ⟨h2, hne⟩ := List.mem_filter.mp (mem_of_mem_pairwise hp).2
    rw [Con.isUpper_eq_of_not (noStar_iff.mp hns _ h2) (by simpa using hne)]
  -- the code's alternation test: a bound is lower exactly when it is not upper
  have hrule2 : (pairwise (cs.filter Con.isBound)).any
      (fun p => (p.1.isUpper && !p.2.isLower) || (p.1.isLower && !p.2.isUpper)) = !altRule cs := by
    rw [altRule, List.any_eq_not_all_not]
    refine congrArg not (all_congr_mem fun p hp => ?_)
    obtain ⟨h1, h2⟩ := mem_of_mem_pairwise hp
    rw [Con.isLower_eq_not_isUpper (List.mem_filter.mp h1).2,
      Con.isLower_eq_not_isUpper (List.mem_filter.mp h2).2]
    cases p.1.isUpper <;> cases p.2.isUpper <;> rfl
  unfold validateComparators
  simp only [any_isStar_eq_false hns, Bool.false_eq_true, if_false, hf2, hrule1, hrule2]
  by_cases h1 : (cs.filter (fun c => !c.isNe)).isEmpty = true
  · -- nothing but "!=": both rules hold of the empty lists
    have e1 := List.isEmpty_iff.mp h1
    simp [eqRule, altRule, ← hf2, e1, pairwise]
  by_cases h2 : (cs.filter Con.isBound).isEmpty = true
  · simp [h1, altRule, List.isEmpty_iff.mp h2, pairwise]
    cases eqRule cs <;> rfl
  simp only [h1, h2]
  cases eqRule cs <;> cases altRule cs <;> rfl

theorem strictSorted_apart (h : Lawful o cmp) (s : List (Con V)) (hs : StrictSorted cmp s) :
    s.Pairwise (fun a b => verSame o a b = false) := by
  apply List.Pairwise.imp _ hs
  intro a b hab
  obtain ⟨c, u, d, w, rfl, rfl, huw⟩ := strictSorted_rel hab
  simp [verSame, h.eq, huw]

theorem apart_perm [OrientedCmp cmp] (h : Lawful o cmp) {s cs : List (Con V)} (hp : s.Perm cs) :
    s.Pairwise (fun a b => verSame o a b = false) ↔ cs.Pairwise (fun a b => verSame o a b = false) :=
  List.Perm.pairwise_iff (fun {x y} hxy => by rw [verSame_symm h]; exact hxy) hp

theorem strictSorted_of_sorted_apart [TransCmp cmp] (h : Lawful o cmp) (s : List (Con V))
    (hns : noStar s = true) (hle : s.Pairwise (fun a b => conLe o a b = true))
    (hap : s.Pairwise (fun a b => verSame o a b = false)) : StrictSorted cmp s := by
  apply List.Pairwise.imp_of_mem _ (hle.and hap)
  intro a b ha hb ⟨h1, h2⟩
  have hsa : a.isStar = false := by simpa using List.all_eq_true.mp hns a ha
  have hsb : b.isStar = false := by simpa using List.all_eq_true.mp hns b hb
  cases a with
  | star => simp [Con.isStar] at hsa
  | mk c u =>
    cases b with
    | star => simp [Con.isStar] at hsb
    | mk d w =>
      show cmp u w = .lt
      rw [conLe_eq h] at h1
      simp only [verSame, h.eq] at h2
      simp only [conCmp, cmpOn, conKey, lexPair, optCmp] at h1
      cases hc : cmp u w <;> simp_all [Ordering.then, Ordering.isLE]

theorem validate_star : validate o ([.star] : List (Con V)) = .ok true := by
  simp [validate, countDistinct, sortCons, validateComparators, Con.isStar]

/-- a star is accepted only alone -/
theorem validate_of_star {cs : List (Con V)} (hst : cs.any Con.isStar = true) (hne : cs ≠ [.star]) :
    validate o cs = .error .ValueError := by
  have hlen : cs.length ≠ 1 := by
    intro hl
    obtain ⟨c, rfl⟩ := List.length_eq_one_iff.mp hl
    cases c with
    | star => exact hne rfl
    | mk => simp [Con.isStar] at hst
  unfold validate
  split
  · rfl
  · rw [if_pos (by simp [hst, hlen])]

/-- without a star: the versions are pairwise different, and the sorted list passes the two rules -/
theorem validate_noStar {cs : List (Con V)} (hns : noStar cs = true) :
    validate o cs =
      if countDistinct o [] cs = cs.length ∧ eqRule (cs.mergeSort (fun a b => conLe o a b)) = true ∧
        altRule (cs.mergeSort (fun a b => conLe o a b)) = true
      then .ok true else .error .ValueError := by
  unfold validate
  rw [sortCons_noStar cs hns, any_isStar_eq_false hns]
  simp only [validateComparators_noStar _ (noStar_of_perm (List.mergeSort_perm cs _).symm hns)]
  by_cases hcd : countDistinct o [] cs = cs.length <;> simp [hcd]

theorem validate_cases (cs : List (Con V)) :
    validate o cs = .ok true ∨ validate o cs = .error .ValueError := by
  by_cases hns : noStar cs = true
  · rw [validate_noStar hns]
    split
    · exact .inl rfl
    · exact .inr rfl
  · by_cases hcs : cs = [.star]
    · exact .inl (hcs ▸ validate_star)
    · exact .inr (validate_of_star (by simpa [noStar] using hns) hcs)

theorem validate_ok_iff_wf [TransCmp cmp] (h : Lawful o cmp) (cs : List (Con V)) :
    validate o cs = .ok true ↔ WF cmp cs := by
  by_cases hns : noStar cs = true
  · have hperm := List.mergeSort_perm cs (fun a b => conLe o a b)
    have hns2 := noStar_of_perm hperm.symm hns
    rw [validate_noStar hns]
    constructor
    · intro hv
      split at hv
      · rename_i hc
        obtain ⟨hcd, he, ha⟩ := hc
        have hap := (countDistinct_nil_iff cs).mp hcd
        have hpw := List.pairwise_mergeSort (le := fun a b => conLe o a b)
          (fun a b c => conLe_trans h a b c) (fun a b => conLe_total h a b) cs
        exact ⟨_, hperm, .inr ⟨hns2, strictSorted_of_sorted_apart h _ hns2 hpw ((apart_perm h hperm).mpr hap), he, ha⟩⟩
      · cases hv
    · intro ⟨s, hp, hw⟩
      rcases hw with rfl | ⟨hnss, hs, he, ha⟩
      · exact absurd (List.perm_singleton.mp hp.symm) (ne_star_of_noStar hns)
      · -- sorting `cs` gives back the witness `s`
        have hsort : cs.mergeSort (fun a b => conLe o a b) = s := by
          have := sortCons_eq_of_perm h cs s hp hnss hs
          rw [sortCons_noStar cs hns] at this
          exact Except.ok.inj this
        rw [hsort, if_pos ⟨(countDistinct_nil_iff cs).mpr ((apart_perm h hp).mp (strictSorted_apart h s hs)), he, ha⟩]
  · have hst : cs.any Con.isStar = true := by simpa [noStar] using hns
    constructor
    · intro hv
      by_cases hcs : cs = [.star]
      · exact hcs ▸ ⟨[.star], .refl _, .inl rfl⟩
      · rw [validate_of_star hst hcs] at hv; cases hv
    · intro ⟨s, hp, hw⟩
      rcases hw with rfl | ⟨hnss, _⟩
      · rw [List.perm_singleton.mp hp.symm]; exact validate_star
      · exact absurd (noStar_of_perm hp hnss) hns

end Univers
