/-
Helper proofs for C10, part 2: the grouping loop of `VersionRange.normalize` as a block
builder, and its specification on a version-sorted list of known versions.
-/
import Univers.Vers.NormalizeThm

namespace Univers

open Std

variable {V : Type} {o : VOps V} {cmp : V → V → Ordering}

def extendCur (cur : Option (V × V)) (k : V) : V × V :=
  match cur with
  | none => (k, k)
  | some b => (b.1, k)

/-- the grouping loop, producing closed blocks `(lo, hi)`; `cur` is the open block -/
def goBlocks (mem : V → Bool) : List V → Option (V × V) → List (V × V)
  | [], none => []
  | [], some b => [b]
  | k :: t, cur =>
      if mem k then
        goBlocks mem t (some (extendCur cur k))
      else match cur with
        | none => goBlocks mem t none
        | some b => b :: goBlocks mem t none

theorem goBlocks_nil (mem : V → Bool) (cur : Option (V × V)) : goBlocks mem [] cur = cur.toList := by
  cases cur <;> rfl

theorem goBlocks_cons_mem {mem : V → Bool} {k : V} (hm : mem k = true) (t : List V)
    (cur : Option (V × V)) : goBlocks mem (k :: t) cur = goBlocks mem t (some (extendCur cur k)) :=
  if_pos hm

theorem goBlocks_cons_not {mem : V → Bool} {k : V} (hm : mem k = false) (t : List V)
    (cur : Option (V × V)) : goBlocks mem (k :: t) cur = cur.toList ++ goBlocks mem t none := by
  refine (if_neg (by rw [hm]; nofun)).trans ?_
  cases cur <;> rfl

/-- the open block of the accumulator `contiguous` (kept reversed in the model) -/
def curBlock (cur : List V) : Option (V × V) :=
  match cur.getLast?, cur.head? with
  | some lo, some hi => some (lo, hi)
  | _, _ => none

theorem curBlock_cons (k : V) (cur : List V) :
    curBlock (k :: cur) = some (extendCur (curBlock cur) k) := by
  cases cur with
  | nil => rfl
  | cons c t =>
    rw [curBlock, curBlock, List.getLast?_cons_cons, List.getLast?_cons]
    rfl

theorem segCons_reverse (cur : List V) :
    segCons o cur.reverse = (curBlock cur).toList.flatMap (blockCons o) := by
  rw [segCons, curBlock, List.head?_reverse, List.getLast?_reverse]
  cases cur.getLast? with
  | none => rfl
  | some lo =>
    cases cur.head? with
    | none => rfl
    | some hi => exact (List.append_nil _).symm

/-- closing the accumulator `contiguous` (or not, when it is empty) -/
theorem flatMap_close (cur : List V) (G : List (List V)) :
    (if cur.isEmpty then G else cur.reverse :: G).flatMap (segCons o) =
      segCons o cur.reverse ++ G.flatMap (segCons o) := by
  cases cur <;> rfl

theorem groupRuns_eq_goBlocks (mem : V → Bool) (S cur : List V) :
    (groupRuns (S.map (fun k => (k, mem k))) cur).flatMap (segCons o) =
      (goBlocks mem S (curBlock cur)).flatMap (blockCons o) := by
  induction S generalizing cur with
  | nil =>
    rw [goBlocks_nil, ← segCons_reverse]
    exact (flatMap_close cur []).trans (List.append_nil _)
  | cons k t ih =>
    rw [List.map_cons, groupRuns]
    cases hm : mem k with
    | true => rw [if_pos rfl, ih, curBlock_cons, goBlocks_cons_mem hm]
    | false =>
      rw [if_neg nofun, flatMap_close, goBlocks_cons_not hm, List.flatMap_append, ← segCons_reverse, ih]
      rfl

theorem inBlock_false_of_lt_lo [OrientedCmp cmp] {x : V} {b : V × V} (h : cmp x b.1 = .lt) :
    inBlock cmp x b = false := by
  rw [inBlock, OrientedCmp.gt_of_lt h]; rfl

theorem inBlock_false_of_gt_hi [OrientedCmp cmp] {x : V} {b : V × V} (h : cmp b.2 x = .lt) :
    inBlock cmp x b = false := by
  rw [inBlock, OrientedCmp.gt_of_lt h, Bool.and_comm]; rfl

def goShape (mem : V → Bool) (S : List V) (cur : Option (V × V)) (bs : List (V × V)) : Prop :=
  match cur with
  | none => ∀ b ∈ bs, b.1 ∈ S ∧ mem b.1 = true ∧ b.2 ∈ S
  | some c => ∃ hi' rest, bs = (c.1, hi') :: rest ∧ le' cmp c.2 hi' ∧ (hi' = c.2 ∨ hi' ∈ S) ∧
      ∀ b ∈ rest, b.1 ∈ S ∧ mem b.1 = true ∧ b.2 ∈ S

def sepBy (cmp : V → V → Ordering) (mem : V → Bool) (S : List V) : List (V × V) → Prop
  | b :: c :: rest => (∃ k ∈ S, mem k = false ∧ cmp b.2 k = .lt ∧ cmp k c.1 = .lt) ∧ sepBy cmp mem S (c :: rest)
  | _ => True

theorem blocksSorted_cons {b : V × V} {t : List (V × V)} (hb : le' cmp b.1 b.2)
    (hlt : ∀ d ∈ t, cmp b.2 d.1 = .lt) (ht : blocksSorted cmp t) : blocksSorted cmp (b :: t) := by
  cases t with
  | nil => exact hb
  | cons d r => exact ⟨hb, hlt d List.mem_cons_self, ht⟩

theorem sepBy_cons {mem : V → Bool} {S : List V} {b : V × V} {t : List (V × V)}
    (hsep : ∀ d ∈ t, ∃ k ∈ S, mem k = false ∧ cmp b.2 k = .lt ∧ cmp k d.1 = .lt)
    (ht : sepBy cmp mem S t) : sepBy cmp mem S (b :: t) := by
  cases t with
  | nil => trivial
  | cons d r => exact ⟨hsep d List.mem_cons_self, ht⟩

/-- the invariant of the loop, proved in one induction along the sorted known versions: a member
extends the open block; a non-member `k` closes it, lies strictly above it (`c.2 ≤ k`, and they
differ in membership) and strictly below every later block (whose start is a member `≥ k`).
The ends of the blocks and the separators are among the known versions read so far, hence in every
list `S'` that contains them. -/
theorem go_full [TransCmp cmp] (mem : V → Bool) (hmem : ∀ a b, cmp a b = .eq → mem a = mem b)
    (S : List V) : ∀ (cur : Option (V × V)),
      S.Pairwise (le' cmp) →
      (∀ c, cur = some c → le' cmp c.1 c.2 ∧ mem c.2 = true ∧ ∀ s ∈ S, le' cmp c.2 s) →
      blocksSorted cmp (goBlocks mem S cur) ∧
      (∀ k ∈ S, (goBlocks mem S cur).any (inBlock cmp k) = mem k) ∧
      ∀ S' : List V, (∀ k ∈ S, k ∈ S') →
        goShape (cmp := cmp) mem S' cur (goBlocks mem S cur) ∧
        sepBy cmp mem S' (goBlocks mem S cur) := by
  induction S with
  | nil =>
    intro cur _ hc
    cases cur with
    | none => exact ⟨trivial, nofun, fun _ _ => ⟨nofun, trivial⟩⟩
    | some c =>
      exact ⟨(hc c rfl).1, nofun, fun _ _ => ⟨⟨c.2, [], rfl, le'_refl _, .inl rfl, nofun⟩, trivial⟩⟩
  | cons k t ih =>
    intro cur hs hc
    obtain ⟨hkt, hst⟩ := List.pairwise_cons.mp hs
    cases hm : mem k with
    | true =>
      obtain ⟨lo, e, hlo⟩ : ∃ lo, extendCur cur k = (lo, k) ∧ le' cmp lo k := by
        cases cur with
        | none => exact ⟨k, rfl, le'_refl k⟩
        | some b => exact ⟨b.1, rfl, le'_trans (hc b rfl).1 ((hc b rfl).2.2 k List.mem_cons_self)⟩
      rw [goBlocks_cons_mem hm, e]
      obtain ⟨ih1, ih2, ih3⟩ := ih (some (lo, k)) hst (fun c e => by cases e; exact ⟨hlo, hm, hkt⟩)
      refine ⟨ih1, List.forall_mem_cons.mpr ⟨?_, ih2⟩, fun S' hS' => ?_⟩
      · -- `k` lies in the open block, which ends at `k` or later
        obtain ⟨⟨hi', rest, hbs, hle, -⟩, -⟩ := ih3 t fun _ h => h
        rw [hbs, List.any_cons, (inBlock_iff (b := (lo, hi'))).mpr ⟨hlo, hle⟩, hm]
        rfl
      · obtain ⟨hk, ht⟩ := List.forall_mem_cons.mp hS'
        obtain ⟨⟨hi', rest, hbs, hle, hhi, hrest⟩, ih4⟩ := ih3 S' ht
        have hhi' : hi' ∈ S' := hhi.elim (· ▸ hk) id
        refine ⟨?_, ih4⟩
        rw [hbs]
        cases cur with
        | none =>
          cases e
          exact List.forall_mem_cons.mpr ⟨⟨hk, hm, hhi'⟩, hrest⟩
        | some b =>
          cases e
          exact ⟨hi', rest, rfl, le'_trans ((hc b rfl).2.2 k List.mem_cons_self) hle, .inr hhi', hrest⟩
    | false =>
      have lt_of_mem_ne : ∀ {a b : V}, le' cmp a b → mem a ≠ mem b → cmp a b = .lt :=
        fun hle hne => lt_of_le'_ne hle (fun e => hne (hmem _ _ e))
      obtain ⟨ih1, ih2, ih3⟩ := ih none hst nofun
      -- k is strictly below the start of every later block
      have hbelow : ∀ b ∈ goBlocks mem t none, cmp k b.1 = .lt := fun b hb =>
        have hb' := (ih3 t fun _ h => h).1 b hb
        lt_of_mem_ne (hkt _ hb'.1) (by rw [hm, hb'.2.1]; nofun)
      have hmemb : ∀ x ∈ k :: t, (goBlocks mem t none).any (inBlock cmp x) = mem x :=
        List.forall_mem_cons.mpr ⟨hm ▸ List.any_eq_false.mpr fun b hb =>
          by rw [inBlock_false_of_lt_lo (hbelow b hb)]; nofun, ih2⟩
      rw [goBlocks_cons_not hm]
      cases cur with
      | none => exact ⟨ih1, hmemb, fun S' hS' => ih3 S' (List.forall_mem_cons.mp hS').2⟩
      | some c =>
        obtain ⟨h1, h2, h3⟩ := hc c rfl
        -- the closed block ends strictly below k
        have hck : cmp c.2 k = .lt :=
          lt_of_mem_ne (h3 k List.mem_cons_self) (by rw [h2, hm]; nofun)
        refine ⟨blocksSorted_cons h1 (fun d hd => TransCmp.lt_trans hck (hbelow d hd)) ih1,
          fun x hx => ?_, fun S' hS' => ?_⟩
        · have hcx : cmp c.2 x = .lt := TransCmp.lt_of_lt_of_isLE hck
            (isLE_of_le' (List.forall_mem_cons.mpr ⟨le'_refl k, hkt⟩ x hx))
          exact (congrArg (· || _) (inBlock_false_of_gt_hi hcx)).trans (hmemb x hx)
        · obtain ⟨hk, ht⟩ := List.forall_mem_cons.mp hS'
          obtain ⟨i3, i4⟩ := ih3 S' ht
          exact ⟨⟨c.2, _, rfl, le'_refl _, .inl rfl, i3⟩,
            sepBy_cons (fun d hd => ⟨k, hk, hm, hck, hbelow d hd⟩) i4⟩

theorem go_spec [TransCmp cmp] (mem : V → Bool) (hmem : ∀ a b, cmp a b = .eq → mem a = mem b) :
    ∀ (S : List V) (cur : Option (V × V)),
      S.Pairwise (le' cmp) →
      (∀ c, cur = some c → le' cmp c.1 c.2 ∧ mem c.2 = true ∧ ∀ s ∈ S, le' cmp c.2 s) →
      blocksSorted cmp (goBlocks mem S cur) ∧
      (∀ k ∈ S, (goBlocks mem S cur).any (inBlock cmp k) = mem k) ∧
      goShape (cmp := cmp) mem S cur (goBlocks mem S cur) :=
  fun S cur hs hc => let ⟨h1, h2, h3⟩ := go_full mem hmem S cur hs hc; ⟨h1, h2, (h3 S fun _ h => h).1⟩

end Univers
