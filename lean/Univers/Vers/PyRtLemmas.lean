/-
Facts about the run-time of the translated code (`Vers/PyRt.lean`) that the agreement theorems of both layers
(`Vers/Gen*Thm.lean`, `Text/Gen*Thm.lean`) share: nothing here mentions a generated definition.
-/
import Univers.Vers.PyRt

namespace Univers.PyRt
open Univers

section combinators
variable {ε α β σ ρ : Type}

/-- `a and b` on answers that cannot fail -/
theorem ok_and (p a : Bool) : (if p then (.ok a : Except ε Bool) else .ok false) = .ok (p && a) := by
  cases p <;> rfl

theorem ite_bind (c : Prop) [Decidable c] (x y : Except ε α) (f : α → Except ε β) :
    (if c then x >>= f else y >>= f) = (if c then x else y) >>= f := by
  split <;> rfl

/-- a comprehension whose element expression cannot fail -/
theorem mapM_ok (f : α → β) (l : List α) : l.mapM (fun a => (.ok (f a) : Except ε β)) = .ok (l.map f) :=
  List.mapM_pure ..

/-- `[f(x)]` is the comprehension over the one-element list -/
theorem singleton_eq_mapM (f : α → Except ε β) (a : α) : (f a >>= fun t => .ok [t]) = ([a].mapM f >>= fun cs => .ok cs) := by
  simp only [List.mapM_cons, List.mapM_nil, bind, Except.bind, pure, Except.pure]
  cases f a <;> rfl

/-- a loop whose body only tests the item and raises: `any` (the twin of `pyFor_ret_any`) -/
theorem pyFor_err_any (xs : List α) (p : α → Bool) (e : ε) (k : Unit → Except ε ρ) :
    pyFor xs () (fun x st => if p x then .error e else .ok (.next st)) k = if xs.any p then .error e else k () := by
  induction xs with
  | nil => rfl
  | cons x xs ih =>
    rw [pyFor_cons, List.any_cons]
    cases p x
    · exact ih
    · rfl

/-- a loop whose body only appends to the list it builds: `flatMap` -/
theorem pyFor_flatMap (g : α → List β) {body} {k : List β → Except ε ρ} {xs : List α} (acc : List β)
    (h : ∀ x ∈ xs, ∀ acc, body x acc = .ok (.next (acc ++ g x))) :
    pyFor xs acc body k = k (acc ++ xs.flatMap g) := by
  induction xs generalizing acc with
  | nil => rw [pyFor_nil, List.flatMap_nil, List.append_nil]
  | cons x xs ih =>
    rw [pyFor_cons, h x List.mem_cons_self, Step.cont_next, ih _ fun y hy => h y (List.mem_cons_of_mem _ hy),
      List.flatMap_cons, List.append_assoc]

variable {fuel : Nat} {st : σ} {cond : σ → Except Err Bool} {body : σ → Except Err (Step σ ρ)} {k : σ → Except Err ρ}

theorem pyWhile_stop (h : cond st = .ok false) : pyWhile (fuel + 1) st cond body k = k st := by
  rw [pyWhile, h]

theorem pyWhile_step (h : cond st = .ok true) :
    pyWhile (fuel + 1) st cond body k = Step.cont (body st) (fun st' => pyWhile fuel st' cond body k) k := by
  rw [pyWhile, h]

/-- a `while` loop that pops the end of a list as long as its last element satisfies `P` is `dropWhile` on the list
given last element first; fuel above the length is never used up -/
theorem pyWhile_pop (P : α → Bool) {cond body} {k : List α → Except Err ρ} (hcond : ∀ st : List α, cond st.reverse = .ok (st.head?.any P))
    (hbody : ∀ st, body st = .ok (.next st.dropLast)) (st : List α) (fuel : Nat) (hf : st.length < fuel) :
    pyWhile fuel st.reverse cond body k = k (st.dropWhile P).reverse := by
  induction st generalizing fuel with
  | nil =>
    obtain ⟨f, rfl⟩ := Nat.exists_eq_add_one.mpr hf
    exact pyWhile_stop (hcond [])
  | cons p st ih =>
    obtain ⟨f, rfl⟩ := Nat.exists_eq_add_one.mpr (Nat.zero_lt_of_lt hf)
    have hc := hcond (p :: st)
    rw [List.head?_cons, Option.any_some] at hc
    rw [List.dropWhile_cons]
    cases hp : P p <;> rw [hp] at hc
    · exact pyWhile_stop hc
    · rw [pyWhile_step hc, hbody, Step.cont_next, List.reverse_cons, List.dropLast_concat]
      exact ih f (Nat.lt_of_succ_lt_succ hf)

end combinators

variable {V : Type} (o : VOps V)

/-- A fact about a constraint that does not look at the version is checked on the seven comparator texts: this is how
a table over `CmpVal`, read at `comparator c`, is compared with a predicate of the model. -/
@[elab_as_elim] theorem comparatorCases {motive : Con V → Prop} (star : motive .star)
    (ge : ∀ v, motive (.mk .ge v)) (le : ∀ v, motive (.mk .le v)) (ne : ∀ v, motive (.mk .ne v))
    (lt : ∀ v, motive (.mk .lt v)) (gt : ∀ v, motive (.mk .gt v)) (eq : ∀ v, motive (.mk .eq v)) : ∀ c, motive c
  | .star => star
  | .mk .ge v => ge v
  | .mk .le v => le v
  | .mk .ne v => ne v
  | .mk .lt v => lt v
  | .mk .gt v => gt v
  | .mk .eq v => eq v

@[simp] theorem eqOpt_version (x : V) (c : Con V) : eqOpt o x (version c) = c.verEq o x := by
  cases c <;> rfl

/-- `xs and t[xs[-1].comparator]` for a list given by its reverse, last element first -/
theorem last_test (t : CmpVal → Bool) (st : List (Con V)) :
    (if truthy st.reverse then (last st.reverse >>= fun t1 => .ok (comparator t1)) >>= fun t2 => .ok (t t2) else .ok false)
      = (.ok (st.head?.any fun p => t (comparator p)) : Except Err Bool) := by
  cases st with
  | nil => rfl
  | cons p st => rw [truthy, last, List.isEmpty_reverse, List.getLast?_reverse]; rfl

/-- `a != b` on lengths, as the translator writes it and as the model does -/
theorem decide_ne_eq_bne (a b : Nat) : decide (a ≠ b) = (a != b) := by
  rw [bne_eq, Bool.beq_eq_decide_eq, decide_not]

theorem pairwise_cons_cons {α} (a b : α) (l : List α) : pairwise (a :: b :: l) = (a, b) :: pairwise (b :: l) :=
  rfl

theorem filter_isEmpty {α} (l : List α) (p : α → Bool) : (l.filter p).isEmpty = !l.any p := by
  induction l with
  | nil => rfl
  | cons x xs ih =>
    rw [List.filter_cons, List.any_cons]
    cases p x
    · exact ih
    · rfl

theorem not_truthy {α} (l : List α) : (!(truthy l)) = l.isEmpty := by simp [truthy]

theorem truthy_filter {α} (l : List α) (p : α → Bool) : truthy (l.filter p) = l.any p := by
  simp [truthy, filter_isEmpty]

end Univers.PyRt
