/-
Helper proofs about sorting constraints (`VersionConstraint.__lt__`, `sorted`, `list.sort`):
the sort of a list whose versions are pairwise distinct is THE version-sorted permutation.
-/
import Univers.Vers.ConLemmas
import Univers.Basic.PadLexEq

namespace Univers

open Std

variable {V : Type} {o : VOps V} {cmp : V → V → Ordering}

/-- comparison of optional versions, `none` (the star's `None`) first -/
def optCmp (cmp : V → V → Ordering) : Option V → Option V → Ordering
  | none, none => .eq
  | none, some _ => .lt
  | some _, none => .gt
  | some a, some b => cmp a b

instance optCmp.instOriented [OrientedCmp cmp] : OrientedCmp (optCmp cmp) where
  eq_swap := by
    intro a b
    cases a <;> cases b <;> simp [optCmp]
    exact OrientedCmp.eq_swap

instance optCmp.instTrans [TransCmp cmp] : TransCmp (optCmp cmp) where
  isLE_trans := by
    intro a b c
    cases a <;> cases b <;> cases c <;> simp [optCmp, Ordering.isLE]
    exact fun h1 h2 => by
      have := TransCmp.isLE_trans (cmp := cmp) (by simpa [Ordering.isLE] using h1) (by simpa [Ordering.isLE] using h2)
      simpa [Ordering.isLE] using this

/-- the sort key of a constraint: `(version, comparator text)` -/
def conKey : Con V → Option V × Nat
  | .star => (none, 1)
  | .mk c v => (some v, c.strRank)

def natCmp : Nat → Nat → Ordering := fun a b => compare a b

instance : TransCmp natCmp := inferInstanceAs (TransCmp (fun a b : Nat => compare a b))

def conCmp (cmp : V → V → Ordering) : Con V → Con V → Ordering :=
  cmpOn conKey (lexPair (optCmp cmp) natCmp)

instance conCmp.instTrans [TransCmp cmp] : TransCmp (conCmp cmp) :=
  inferInstanceAs (TransCmp (cmpOn conKey (lexPair (optCmp cmp) natCmp)))

theorem conLt_eq_conCmp (h : Lawful o cmp) (a b : Con V) :
    conLt o a b = (conCmp cmp a b == .lt) := by
  cases a with
  | star =>
    cases b with
    | star => simp [conLt, conCmp, cmpOn, conKey, lexPair, optCmp, natCmp]
    | mk d w => simp [conLt, conCmp, cmpOn, conKey, lexPair, optCmp]
  | mk c u =>
    cases b with
    | star => simp [conLt, conCmp, cmpOn, conKey, lexPair, optCmp]
    | mk d w =>
      simp only [conLt, conCmp, cmpOn, conKey, lexPair, optCmp, natCmp, h.eq, h.lt]
      cases hc : cmp u w <;> simp [Ordering.then, nat_lt_eq_compare]

/-- `not (b < a)`: the `le` that a stable sort calling only `__lt__` works with -/
def conLe (o : VOps V) (a b : Con V) : Bool := !conLt o b a

theorem conLe_eq (h : Lawful o cmp) [OrientedCmp cmp] (a b : Con V) :
    conLe o a b = (conCmp cmp a b).isLE := by
  have : OrientedCmp (conCmp cmp) :=
    inferInstanceAs (OrientedCmp (cmpOn conKey (lexPair (optCmp cmp) natCmp)))
  unfold conLe
  rw [conLt_eq_conCmp h, OrientedCmp.eq_swap (cmp := conCmp cmp)]
  cases conCmp cmp a b <;> rfl

theorem conLe_trans [TransCmp cmp] (h : Lawful o cmp) (a b c : Con V) :
    conLe o a b = true → conLe o b c = true → conLe o a c = true := by
  simp only [conLe_eq h]
  exact fun h1 h2 => TransCmp.isLE_trans h1 h2

theorem conLe_total [TransCmp cmp] (h : Lawful o cmp) (a b : Con V) :
    (conLe o a b || conLe o b a) = true := by
  simp only [conLe_eq h]
  rw [OrientedCmp.eq_swap (cmp := conCmp cmp) (a := b) (b := a)]
  cases conCmp cmp a b <;> rfl

theorem sortCons_noStar (cs : List (Con V)) (hns : noStar cs = true) :
    sortCons o cs = .ok (cs.mergeSort (fun a b => conLe o a b)) := by
  unfold sortCons
  simp [any_isStar_eq_false hns, conLe]

theorem strictSorted_pairwise_le [TransCmp cmp] (h : Lawful o cmp) (s : List (Con V))
    (hs : StrictSorted cmp s) : s.Pairwise (fun a b => conLe o a b = true) := by
  apply List.Pairwise.imp _ hs
  intro a b hab
  obtain ⟨c, u, d, w, rfl, rfl, huw⟩ := strictSorted_rel hab
  rw [conLe_eq h]
  simp [conCmp, cmpOn, conKey, lexPair, optCmp, huw, Ordering.then, Ordering.isLE]

/-- in a strictly sorted list, two members whose comparison is `≤` both ways are the same: of two
different members one has the strictly smaller version, so it is not `≥` the other -/
theorem strictSorted_antisymm [TransCmp cmp] (h : Lawful o cmp) (s : List (Con V))
    (hs : StrictSorted cmp s) :
    ∀ a b, a ∈ s → b ∈ s → conLe o a b = true → conLe o b a = true → a = b := by
  intro a b ha hb hab hba
  have key : ∀ (c d : Cmpr) (u w : V), cmp u w = .lt → conLe o (.mk d w) (.mk c u) = true → False := by
    intro c d u w huw hle
    rw [conLe_eq h] at hle
    simp [conCmp, cmpOn, conKey, lexPair, optCmp, OrientedCmp.gt_of_lt huw, Ordering.isLE] at hle
  rcases strictSorted_trichotomy hs ha hb with e | ⟨c, u, d, w, rfl, rfl, huw⟩ | ⟨c, u, d, w, rfl, rfl, hwu⟩
  · exact e
  · exact (key c d u w huw hba).elim
  · exact (key d c w u hwu hab).elim

theorem sortCons_eq_of_perm [TransCmp cmp] (h : Lawful o cmp) (cs s : List (Con V))
    (hp : s.Perm cs) (hns : noStar s = true) (hs : StrictSorted cmp s) :
    sortCons o cs = .ok s := by
  rw [sortCons_noStar cs (noStar_of_perm hp hns)]
  congr 1
  have hpw := List.pairwise_mergeSort (le := fun a b => conLe o a b)
    (fun a b c => conLe_trans h a b c) (fun a b => conLe_total h a b) cs
  have hperm : (cs.mergeSort (fun a b => conLe o a b)).Perm s :=
    (List.mergeSort_perm cs _).trans hp.symm
  have hmem : ∀ a b, a ∈ cs.mergeSort (fun a b => conLe o a b) → b ∈ s →
      conLe o a b = true → conLe o b a = true → a = b := by
    intro a b ha hb
    exact strictSorted_antisymm h s hs a b (hperm.mem_iff.mp ha) hb
  exact List.Perm.eq_of_pairwise (le := fun a b => conLe o a b = true) hmem hpw
    (strictSorted_pairwise_le h s hs) hperm

/-- the order in which the constraints are given does not matter -/
theorem sortCons_of_wf [TransCmp cmp] (h : Lawful o cmp) (cs : List (Con V)) (hwf : WF cmp cs) :
    ∃ s, sortCons o cs = .ok s ∧ s.Perm cs ∧ WFSorted cmp s := by
  obtain ⟨s, hp, hw⟩ := hwf
  rcases hw with rfl | ⟨hns, hs, he, ha⟩
  · have : cs = [.star] := by
      have := hp.symm
      exact List.perm_singleton.mp this
    subst this
    exact ⟨[.star], by simp [sortCons, Con.isStar], List.Perm.refl _, Or.inl rfl⟩
  · exact ⟨s, sortCons_eq_of_perm h cs s hp hns hs, hp, Or.inr ⟨hns, hs, he, ha⟩⟩

end Univers
