/-
Agreement theorem for `validate_comparators`: the function GENERATED from the Python source on every run
(`Univers/Gen/PyValidateComparators.lean`) is the model function `validateComparators` of
`Univers/Vers/Model.lean` that the theorems of C07 are about.
-/
import Univers.Gen.PyValidateComparators
import Univers.Vers.PyRtLemmas

namespace Univers.Gen.LayerB
open Univers Univers.PyRt

variable {V : Type} (o : VOps V) (perm : List (Con V) → List (Con V))

/-- the tables of `validate_comparators`, read at the comparator of a constraint, are the model's predicates -/
theorem vc_tabs (c : Con V) :
    validate_comparators_tab1 (comparator c) = c.isStar ∧
    validate_comparators_tab2 (comparator c) = !c.isNe ∧
    validate_comparators_tab3 (comparator c) = c.isEq ∧
    validate_comparators_tab4 (comparator c) = !(c.isEq || c.isLower) ∧
    validate_comparators_tab5 (comparator c) = !c.isEq ∧
    validate_comparators_tab6 (comparator c) = c.isUpper ∧
    validate_comparators_tab7 (comparator c) = !c.isLower ∧
    validate_comparators_tab8 (comparator c) = c.isLower ∧
    validate_comparators_tab9 (comparator c) = !c.isUpper := by
  cases c using comparatorCases <;> exact ⟨rfl, rfl, rfl, rfl, rfl, rfl, rfl, rfl, rfl⟩

/-- the loop over the pairs of neighbours raises at the first pair that its two tests refuse -/
theorem vc_for1_eq (cs ie) (ps : List (Con V × Con V)) :
    pyFor ps () (validate_comparators_for1_body o perm cs ie) (validate_comparators_for1_after o perm cs ie)
      = if ps.any (fun p => (validate_comparators_tab6 (comparator p.1) && validate_comparators_tab7 (comparator p.2)) ||
          (validate_comparators_tab8 (comparator p.1) && validate_comparators_tab9 (comparator p.2)))
        then .error .ValueError else .ok true :=
  pyFor_err_any ps _ _ _

/-- `validate_comparators` -/
theorem validate_comparators_eq (cs : List (Con V)) :
    validate_comparators o perm cs = validateComparators cs := by
  simp only [validate_comparators, validateComparators, vc_for1_eq, vc_tabs,
    decide_ne_eq_bne, truthy_filter, filter_isEmpty, PyRt.pairwise]

end Univers.Gen.LayerB
