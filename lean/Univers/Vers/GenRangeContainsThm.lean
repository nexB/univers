/-
Agreement theorem for `VersionRange.__contains__` as translated from `univers/version_range.py` on every run
(`Univers/Gen/PyRangeContains.lean`): it is the model's `containsVersion` on the range's constraints (C04).

Versions are given already constructed: `self.version_class(text)` is Layer A's business and is read as the
identity by the translator; the class guards (`isinstance`, `cls.scheme`) are C14's business and hold of every
concrete range class.
-/
import Univers.Gen.PyRangeContains
import Univers.Vers.GenContainsThm

namespace Univers.Gen.LayerB
open Univers Univers.PyRt

variable {V : Type} (o : VOps V) (perm : List (Con V) → List (Con V))

/-- `VersionRange.__contains__` -/
theorem range_contains_eq (cs : List (Con V)) (x : V) : range_contains o perm cs x = containsVersion o x cs := by
  unfold range_contains
  exact contains_version_eq o perm x cs

end Univers.Gen.LayerB
