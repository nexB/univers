/-
Agreement theorem for `contains_version`: the function that `harness/translate_layerb.py` GENERATES from the
Python source of `univers/version_constraint.py` on every run (`Univers/Gen/PyContainsVersion.lean`) is the
hand-written model function `containsVersion` of `Univers/Vers/Model.lean` that the theorems of C04 are about.

If the Python is edited so that it computes something else, the generated definition changes and this
theorem stops checking: the property theorems then no longer speak about what the code says now.
-/
import Univers.Gen.PyContainsVersion
import Univers.Vers.PyRtLemmas

namespace Univers.Gen.LayerB
open Univers Univers.PyRt

variable {V : Type} (o : VOps V) (perm : List (Con V) → List (Con V))

@[simp] theorem cv_tab1 (c : Con V) : contains_version_tab1 (comparator c) = c.hasNeSub := by
  cases c using comparatorCases <;> eq_refl

@[simp] theorem cv_tab2 (c : Con V) : contains_version_tab2 (comparator c) = c.hasEqChar := by
  cases c using comparatorCases <;> eq_refl

theorem cv_tab1_isNe (c : Con V) : contains_version_tab1 (comparator c) = c.isNe := by
  cases c using comparatorCases <;> eq_refl

@[simp] theorem cv_tab3 (c : Con V) : contains_version_tab3 (comparator c) = !(c.isEq || c.isNe) := by
  cases c using comparatorCases <;> eq_refl

@[simp] theorem cv_tab4 (c : Con V) : contains_version_tab4 (comparator c) = c.isUpper := by
  cases c using comparatorCases <;> eq_refl

@[simp] theorem cv_tab5 (c : Con V) : contains_version_tab5 (comparator c) = c.isLower := by
  cases c using comparatorCases <;> eq_refl

theorem con_contains_eq (c : Con V) (x : V) : con_contains o perm c x = .ok (c.sat o x) := rfl

variable (x : V) (cs : List (Con V))

/-- One round of the `pairwise` loop followed by `K` is the model's `scanLoop`, if `K` is `scanLoop` on what is left.
The round reads nothing of the state but `first_iteration`, and leaves `nxt_constraint` the head of what is left. -/
theorem for3_round (u) (b c : Con V) (rest : List (Con V)) (first : Bool) (cc nc ccon ncon K k)
    (hK : ∀ ccon cc, K (ccon, some c, cc, comparator c, false) = scanLoop o x false (c :: rest)) :
    Step.cont (contains_version_for3_body o perm x cs u (b, c) (ccon, ncon, cc, nc, first)) K k
      = scanLoop o x first (b :: c :: rest) := by
  cases b with
  | star => cases first <;> cases c <;> eq_refl
  | mk k v =>
    cases c <;> cases first <;>
      simp only [contains_version_for3_body, comparatorOpt, versionOpt, PyRt.version, ltOpt, gtOpt, bind, Except.bind,
        cv_tab4, cv_tab5, Con.isUpper, Con.isLower, ok_and, scanLoop, Bool.and_false, Bool.false_and, Bool.true_and,
        Bool.false_eq_true, ↓reduceIte, Step.cont_ite, Step.cont_ret, Step.cont_next, Step.cont_error, hK]

/-- the `pairwise` loop over two or more constraints, with the statement after it -/
theorem for3_eq (u) (b c : Con V) (rest : List (Con V)) (first : Bool) (cc nc ccon ncon) :
    pyFor (PyRt.pairwise (b :: c :: rest)) (ccon, ncon, cc, nc, first) (contains_version_for3_body o perm x cs u)
        (contains_version_for3_after o perm x cs u)
      = scanLoop o x first (b :: c :: rest) := by
  rw [pairwise_cons_cons, pyFor_cons]
  refine for3_round o perm x cs u b c rest first _ _ _ _ _ _ fun _ _ => ?_
  cases rest with
  | cons d rest => exact for3_eq ..
  | nil =>
    -- the statement after the loop reads `nxt_constraint`, the last constraint
    cases c with
    | star => rfl
    | mk k v =>
      simp only [pyFor_nil, PyRt.pairwise, Univers.pairwise, contains_version_for3_after, cv_tab5, Con.isLower, versionOpt,
        PyRt.version, gtOpt, bind, Except.bind, ok_and, Bool.and_true, scanLoop]

theorem for1_eq (k : Unit → Except Err Bool) :
    pyFor cs () (contains_version_for1_body o perm x cs) k
      = if cs.any (fun c => c.hasNeSub && c.verEq o x) then .ok false else k () :=
  (pyFor_ret_any cs _ false k).trans
    (by simp only [cv_tab1, eqOpt_version])

theorem for2_eq (k : Unit → Except Err Bool) :
    pyFor cs () (contains_version_for2_body o perm x cs) k
      = if cs.any (fun c => c.hasEqChar && c.verEq o x) then .ok true else k () :=
  (pyFor_ret_any cs _ true k).trans
    (by simp only [cv_tab2, eqOpt_version])

/-- the end of the function, on the filtered list -/
theorem for2_after_eq :
    contains_version_for2_after o perm x cs () = containsBounds o x cs (cs.filter (fun c => !(c.isEq || c.isNe))) := by
  simp only [contains_version_for2_after, cv_tab3, cv_tab1_isNe]
  generalize cs.filter (fun c => !(c.isEq || c.isNe)) = bs
  match bs with
  | [] => simp only [containsBounds, truthy, List.isEmpty_nil, Bool.not_true, Bool.not_false, ↓reduceIte]
  | [c] => rfl
  | b :: c :: rest =>
    exact for3_eq ..

theorem contains_multi_eq :
    pyFor cs () (contains_version_for1_body o perm x cs) (contains_version_for1_after o perm x cs)
      = containsMulti o x cs := by
  simp only [for1_eq, contains_version_for1_after, for2_eq, for2_after_eq, containsMulti]

/-- `contains_version` -/
theorem contains_version_eq (x : V) (cs : List (Con V)) :
    contains_version o perm x cs = containsVersion o x cs := by
  match cs with
  | [c] => rfl
  | [] => exact contains_multi_eq o perm x []
  | a :: b :: rest => exact contains_multi_eq o perm x _

end Univers.Gen.LayerB
