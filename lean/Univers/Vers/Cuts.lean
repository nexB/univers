/-
Helper proofs shared by C08, C09, C17: bounds as cuts of the version line; on an alternating
version-sorted bound list the interval union is decided by the first cut above the point.
-/
import Univers.Vers.ContainsThm

namespace Univers

open Std

variable {V : Type} {cmp : V → V → Ordering}

def firstAboveIn (cmp : V → V → Ordering) (x : V) (B : List (Con V)) : Bool :=
  match B.find? (cutAbove cmp x) with
  | some b => b.isUpper
  | none => match B.getLast? with
    | some b => b.isLower
    | none => false

theorem cutBelow_eq_not_cutAbove (x : V) (b : Con V) (hb : b.isBound = true) :
    cutBelow cmp x b = !cutAbove cmp x b := by
  obtain ⟨c, v, rfl, _, _⟩ := isBound_cases hb
  simp only [cutBelow, cutAbove]
  cases cmp v x <;> cases c <;> first | rfl | cases hb

theorem upper_holds_eq_cutAbove [OrientedCmp cmp] (x : V) (c : Cmpr) (v : V) (hu : c.isUpper = true) :
    (Con.mk c v).holds cmp x = cutAbove cmp x (.mk c v) := by
  simp only [Con.holds, cutAbove, OrientedCmp.eq_swap (cmp := cmp) (a := x) (b := v)]
  cases cmp v x <;> cases c <;> first | rfl | cases hu

theorem lower_holds_eq_not_cutAbove [OrientedCmp cmp] (x : V) (c : Cmpr) (v : V) (hl : c.isLower = true) :
    (Con.mk c v).holds cmp x = !cutAbove cmp x (.mk c v) := by
  simp only [Con.holds, cutAbove, OrientedCmp.eq_swap (cmp := cmp) (a := x) (b := v)]
  cases cmp v x <;> cases c <;> first | rfl | cases hl

theorem cutAbove_mono [TransCmp cmp] (x : V) (b : Con V) (rest : List (Con V))
    (hs : StrictSorted cmp (b :: rest)) (hb : cutAbove cmp x b = true) :
    ∀ c ∈ rest, cutAbove cmp x c = true := by
  intro c hc
  obtain ⟨_, u, _, w, rfl, rfl, huw⟩ := strictSorted_rel ((List.pairwise_cons.mp hs).1 c hc)
  have hwu : cmp w u = .gt := OrientedCmp.gt_of_lt huw
  simp only [cutAbove, Bool.or_eq_true, Bool.and_eq_true, beq_iff_eq] at hb ⊢
  rcases hb with hb | ⟨hb, _⟩
  · exact Or.inl (TransCmp.gt_trans hwu hb)
  · exact Or.inl (TransCmp.gt_of_gt_of_eq hwu hb)

theorem firstAboveIn_cons_of_not_above {x : V} {b : Con V} {rest : List (Con V)}
    (hb : cutAbove cmp x b = false) :
    firstAboveIn cmp x (b :: rest) = if rest.isEmpty then b.isLower else firstAboveIn cmp x rest := by
  cases rest <;> simp [firstAboveIn, List.find?, hb]

theorem firstAboveIn_cons_of_above {x : V} {b : Con V} {rest : List (Con V)}
    (hb : cutAbove cmp x b = true) : firstAboveIn cmp x (b :: rest) = b.isUpper := by
  simp [firstAboveIn, List.find?, hb]

theorem inPairs_eq_firstAbove [TransCmp cmp] (x : V) :
    ∀ (B : List (Con V)), altFrom false B = true → StrictSorted cmp B →
      inPairs cmp x B = firstAboveIn cmp x B
  | [], _, _ => rfl
  | [b], ha, _ => by
    obtain ⟨c, v, rfl, hl, hu, -⟩ := altFrom_lower ha
    rw [inPairs, lower_holds_eq_not_cutAbove x c v hl]
    cases hca : cutAbove cmp x (.mk c v)
    · rw [firstAboveIn_cons_of_not_above hca]; exact hl.symm
    · rw [firstAboveIn_cons_of_above hca]; exact hu.symm
  | lo :: hi :: rest, ha, hs => by
    obtain ⟨c, v, rfl, hl, hu, ha'⟩ := altFrom_lower ha
    obtain ⟨d, w, rfl, hdu, hdl, ha''⟩ := altFrom_upper ha'
    have ih := inPairs_eq_firstAbove x rest ha'' (strictSorted_tail (strictSorted_tail hs))
    rw [inPairs, lower_holds_eq_not_cutAbove x c v hl, upper_holds_eq_cutAbove x d w hdu, ih]
    cases hca : cutAbove cmp x (.mk c v)
    · rw [firstAboveIn_cons_of_not_above hca]
      cases hcb : cutAbove cmp x (.mk d w)
      · rw [firstAboveIn_cons_of_not_above hcb]
        cases rest <;> simp [firstAboveIn, Con.isLower, hdl]
      · rw [firstAboveIn_cons_of_above hcb]; simp [Con.isUpper, hdu]
    · -- every later cut is above as well: the next pair is not entered, nor any later one
      have hall := cutAbove_mono x _ _ hs hca
      rw [firstAboveIn_cons_of_above hca, hall _ List.mem_cons_self]
      cases rest with
      | nil => simp [firstAboveIn, Con.isUpper, hu]
      | cons r rs =>
        obtain ⟨_, _, rfl, -, hru, -⟩ := altFrom_lower ha''
        rw [firstAboveIn_cons_of_above (hall _ (List.mem_cons_of_mem _ List.mem_cons_self))]
        simp [Con.isUpper, hu, hru]

theorem inIntervals_eq_firstAbove [TransCmp cmp] (x : V) (B : List (Con V)) (hb : allBounds B)
    (halt : altB B = true) (hs : StrictSorted cmp B) :
    inIntervals cmp x B = firstAboveIn cmp x B := by
  cases B with
  | nil => rfl
  | cons b rest =>
    have ha := altFrom_of_altB _ _ hb halt
    cases hu : b.isUpper <;> rw [hu] at ha <;> simp only [inIntervals, hu]
    · exact inPairs_eq_firstAbove x _ ha hs
    · obtain ⟨c, v, rfl, hcu, hcl, ha'⟩ := altFrom_upper ha
      rw [upper_holds_eq_cutAbove x c v hcu, inPairs_eq_firstAbove x rest ha' (strictSorted_tail hs)]
      cases hca : cutAbove cmp x (.mk c v)
      · rw [firstAboveIn_cons_of_not_above hca]
        cases rest <;> simp [firstAboveIn, Con.isLower, hcl]
      · rw [firstAboveIn_cons_of_above hca]; simp [hu]

end Univers
