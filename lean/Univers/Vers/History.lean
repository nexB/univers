/-
Helper proofs for C17: the two oracles `denoteR` and `denote` agree on well-formed lists.
-/
import Univers.Vers.SimplifyMeaning

namespace Univers

open Std

variable {V : Type} {o : VOps V} {cmp : V → V → Ordering}

/-- on alternating bounds the upward walk is decided by the first cut above; `p` (the nearest
cut below points upward) can only hold in front of an upper bound -/
theorem regionWalk_alt (x : V) : ∀ (B : List (Con V)) (p : Bool),
    altB B = true → (∀ b t, B = b :: t → p = true → b.isUpper = true) →
    regionWalk cmp x p B =
      (match B.find? (cutAbove cmp x) with
       | some b => b.isUpper
       | none => (B.getLast?.map Con.isLower).getD p)
  | [], _, _, _ => rfl
  | c :: t, p, halt, hp => by
    rw [regionWalk, List.find?_cons]
    cases hca : cutAbove cmp x c with
    | true =>
      cases p with
      | false => rfl
      | true => exact (hp c t rfl rfl).symm
    | false =>
      have haltt : altB t = true := by
        cases t with
        | nil => rfl
        | cons d rest => exact ((Bool.and_eq_true _ _).mp halt).2
      -- after a lower bound comes an upper one
      have hnext : ∀ b t', t = b :: t' → c.isLower = true → b.isUpper = true := by
        intro b t' e hl
        subst e
        have h1 := ((Bool.and_eq_true _ _).mp halt).1
        rwa [Con.not_isUpper_of_isLower hl, Bool.false_bne] at h1
      rw [if_neg nofun, regionWalk_alt x t c.isLower haltt hnext, List.getLast?_cons]
      cases t.find? (cutAbove cmp x) with
      | some b => rfl
      | none => cases t.getLast? <;> rfl

theorem inRegion_eq_inIntervals [TransCmp cmp] (x : V) (B : List (Con V)) (hb : allBounds B)
    (halt : altB B = true) (hs : StrictSorted cmp B) : inRegion cmp x B = inIntervals cmp x B := by
  rw [inIntervals_eq_firstAbove x B hb halt hs, inRegion, firstAboveIn,
    regionWalk_alt x B false halt (fun _ _ _ h => nomatch h)]
  cases B.getLast? <;> rfl

theorem denoteR_eq_denote [TransCmp cmp] (cs : List (Con V)) (hwf : WFSorted cmp cs) (x : V) :
    denoteR cmp cs x = denote cmp cs x := by
  rcases hwf with rfl | ⟨hns, hs, _, halt⟩
  · rfl
  · have hcs := ne_star_of_noStar hns
    rw [denoteR_formula cs hcs, denote_formula cs hcs,
      inRegion_eq_inIntervals x _ (fun b hb => (List.mem_filter.mp hb).2)
        (by rw [← altRule_eq_altB]; exact halt) (List.Pairwise.filter _ hs)]

end Univers
