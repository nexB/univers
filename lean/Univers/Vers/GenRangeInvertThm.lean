/-
Agreement theorems for `VersionRange.is_star` and `VersionRange.invert` as translated from
`univers/version_range.py` on every run (`Univers/Gen/PyRangeIsStar.lean`, `PyRangeInvert.lean`): they are the
model's `invertRange` that the theorems of C09 are about.

Versions are given already constructed: `self.version_class(text)` is Layer A's business and is read as the
identity by the translator; the class guards (`isinstance`, `cls.scheme`) are C14's business and hold of every
concrete range class.
-/
import Univers.Gen.PyRangeInvert
import Univers.Vers.GenConInvertThm

namespace Univers.Gen.LayerB
open Univers Univers.PyRt

variable {V : Type} (o : VOps V) (perm : List (Con V) → List (Con V))

theorem range_is_star_eq (cs : List (Con V)) :
    range_is_star o perm cs = .ok (match cs with | [.star] => true | _ => false) := by
  match cs with
  | [] => rfl
  | [c] => exact (con_is_star_eq o perm c).trans (by cases c <;> rfl)
  | a :: b :: rest => cases a <;> rfl

theorem invert_for_eq (cs0 cs : List (Con V)) :
    pyFor cs [] (range_invert_for1_body o perm cs0) (range_invert_for1_after o perm cs0)
      = (mkRangeOfOpts o (cs.map Con.invert) >>= fun r => .ok (some r)) := by
  rw [pyFor_flatMap (fun c => [c.invert]) [] fun c _ acc => by rw [range_invert_for1_body, con_invert_eq]; rfl,
    List.nil_append, ← List.map_eq_flatMap]
  rfl

/-- the range of the inverted constraints: sorting refuses the `None` that a star inverts to -/
theorem mkRangeOfOpts_map_invert (cs : List (Con V)) :
    mkRangeOfOpts o (cs.map Con.invert)
      = if cs.any Con.isStar then .error .TypeError else sortCons o (cs.filterMap Con.invert) := by
  have hall : (cs.map Con.invert).all Option.isSome = !cs.any Con.isStar := by
    induction cs with
    | nil => rfl
    | cons c cs ih => cases c <;> simp [Con.invert, Con.isStar, ih]
  rw [mkRangeOfOpts, hall, List.filterMap_map]
  cases cs.any Con.isStar <;> rfl

/-- `VersionRange.invert`: `None` for the star range, the sorted inverted constraints otherwise; a star among other
constraints is the `TypeError` of sorting `None` -/
theorem range_invert_eq (cs : List (Con V)) :
    range_invert o perm cs =
      (match invertRange o cs with
       | none => .ok none
       | some (.ok r) => .ok (some r)
       | some (.error e) => .error e) := by
  by_cases h : cs = [.star]
  · subst h; rfl
  · -- both `match`es on `cs` take their default case: their equations ask for `cs = [.star] → False`, which is `h`
    simp only [range_invert, range_is_star_eq, invertRange, invert_for_eq, mkRangeOfOpts_map_invert,
      mkRange, bind, Except.bind, Bool.false_eq_true, ↓reduceIte]
    cases cs.any Con.isStar
    · cases sortCons o (cs.filterMap Con.invert) <;> rfl
    · rfl

end Univers.Gen.LayerB
