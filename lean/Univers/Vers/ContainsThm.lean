/-
Helper lemmas for C04: the `pairwise` scan of `contains_version` computes the interval union.
-/
import Univers.Vers.ConLemmas

namespace Univers

open Std

variable {V : Type} {o : VOps V} {cmp : V → V → Ordering}

theorem Lawful.sat_eq_holds (h : Lawful o cmp) (x : V) (c : Con V) :
    c.sat o x = c.holds cmp x := by
  cases c with
  | star => rfl
  | mk k v => cases k <;> simp [Con.sat, Con.holds, VOps.op, Cmpr.holds, h.lt, h.gt, h.eq, h.le, h.ge, h.ne]

theorem Lawful.verEq_eq_at (h : Lawful o cmp) (x : V) (c : Con V) :
    c.verEq o x = c.at cmp x := by
  cases c with
  | star => rfl
  | mk k v => simp [Con.verEq, Con.at, h.eq]

def altB : List (Con V) → Bool
  | a :: b :: rest => (a.isUpper != b.isUpper) && altB (b :: rest)
  | _ => true

theorem altRule_eq_altB (cs : List (Con V)) : altRule cs = altB (cs.filter Con.isBound) := by
  unfold altRule
  generalize cs.filter Con.isBound = l
  induction l with
  | nil => rfl
  | cons a t ih =>
    cases t with
    | nil => rfl
    | cons b rest => simp [pairwise, altB, ← ih]

def offIncl (cmp : V → V → Ordering) (x : V) (bs : List (Con V)) : Prop :=
  ∀ c v, Con.mk c v ∈ bs → (c = .ge ∨ c = .le) → cmp x v ≠ .eq

theorem offIncl_tail {x : V} {b : Con V} {bs : List (Con V)} (h : offIncl cmp x (b :: bs)) :
    offIncl cmp x bs :=
  fun c v hm hc => h c v (List.mem_cons_of_mem _ hm) hc

theorem lower_holds (h : Lawful o cmp) {x : V} {c : Cmpr} {v : V} (hc : c.isLower = true)
    (hoff : (c = .ge ∨ c = .le) → cmp x v ≠ .eq) :
    (Con.mk c v).holds cmp x = o.gt x v := by
  rw [h.gt]
  cases c <;> first | cases hc | skip
  · have := hoff (Or.inl rfl)
    show (cmp x v != .lt) = _
    cases hr : cmp x v <;> first | rfl | exact absurd hr this
  · rfl

theorem upper_holds (h : Lawful o cmp) {x : V} {c : Cmpr} {v : V} (hc : c.isUpper = true)
    (hoff : (c = .ge ∨ c = .le) → cmp x v ≠ .eq) :
    (Con.mk c v).holds cmp x = o.lt x v := by
  rw [h.lt]
  cases c <;> first | cases hc | skip
  · have := hoff (Or.inr rfl)
    show (cmp x v != .gt) = _
    cases hr : cmp x v <;> first | rfl | exact absurd hr this
  · rfl

def allBounds (bs : List (Con V)) : Prop := ∀ b ∈ bs, b.isBound = true

theorem isBound_cases {b : Con V} (hb : b.isBound = true) :
    ∃ c v, b = .mk c v ∧ (c.isUpper = true ∨ c.isLower = true) ∧ (c.isUpper = true → c.isLower = false) := by
  cases b with
  | star => cases hb
  | mk c v => exact ⟨c, v, rfl, Con.isBound_iff.mp hb, fun h => Con.not_isLower_of_isUpper (c := .mk c v) h⟩

/-! `altFrom up B`: `B` consists of bounds that alternate, and its first element (if any) is an upper
bound exactly when `up`.  Unlike `allBounds B ∧ altB B = true` this says of which kind the head of
every tail is, which is what the inductions over `inPairs` (two elements at a time) need. -/

def altFrom : Bool → List (Con V) → Bool
  | _, [] => true
  | up, b :: rest => b.isBound && (b.isUpper == up) && altFrom (!up) rest

theorem altFrom_lower {b : Con V} {rest : List (Con V)} (h : altFrom false (b :: rest) = true) :
    ∃ c v, b = .mk c v ∧ c.isLower = true ∧ c.isUpper = false ∧ altFrom true rest = true := by
  simp only [altFrom, Bool.and_eq_true, beq_iff_eq, Bool.not_false] at h
  obtain ⟨c, v, rfl, hul, _⟩ := isBound_cases h.1.1
  exact ⟨c, v, rfl, hul.resolve_left (by rw [show c.isUpper = false from h.1.2]; decide), h.1.2, h.2⟩

theorem altFrom_upper {b : Con V} {rest : List (Con V)} (h : altFrom true (b :: rest) = true) :
    ∃ c v, b = .mk c v ∧ c.isUpper = true ∧ c.isLower = false ∧ altFrom false rest = true := by
  simp only [altFrom, Bool.and_eq_true, beq_iff_eq, Bool.not_true] at h
  obtain ⟨c, v, rfl, _, hex⟩ := isBound_cases h.1.1
  exact ⟨c, v, rfl, h.1.2, hex h.1.2, h.2⟩

theorem altFrom_of_altB : ∀ (b : Con V) (rest : List (Con V)), allBounds (b :: rest) →
    altB (b :: rest) = true → altFrom b.isUpper (b :: rest) = true
  | b, [], hb, _ => by simp [altFrom, hb b List.mem_cons_self]
  | b, n :: rest, hb, halt => by
    simp only [altB, Bool.and_eq_true, bne_iff_ne, ne_eq] at halt
    have ih := altFrom_of_altB n rest (fun y hy => hb y (List.mem_cons_of_mem _ hy)) halt.2
    rw [show n.isUpper = !b.isUpper by
      cases hb' : b.isUpper <;> cases hn : n.isUpper <;> simp_all] at ih
    rw [altFrom, ih, hb b List.mem_cons_self, beq_self_eq_true]
    rfl

/-- The scan, started on a lower bound (any `first`) or continued on an upper bound
(`first = false`), computes the union of the (lower, upper) pairs. -/
theorem scanLoop_spec (h : Lawful o cmp) (x : V) : ∀ (bs : List (Con V)), offIncl cmp x bs →
    (altFrom false bs = true → ∀ f, scanLoop o x f bs = .ok (inPairs cmp x bs)) ∧
    (altFrom true bs = true → scanLoop o x false bs = .ok (inPairs cmp x bs.tail))
  | [], _ => ⟨fun _ _ => rfl, fun _ => rfl⟩
  | [b], hoff => by
    refine ⟨fun ha f => ?_, fun ha => ?_⟩
    · obtain ⟨c, v, rfl, hl, -, -⟩ := altFrom_lower ha
      simp only [scanLoop, inPairs, hl, Bool.true_and,
        lower_holds h hl (hoff c v List.mem_cons_self)]
    · obtain ⟨c, v, rfl, -, hl, -⟩ := altFrom_upper ha
      simp only [scanLoop, hl, Bool.false_and, List.tail_cons, inPairs]
  | b :: n :: rest, hoff => by
    have ih := scanLoop_spec h x (n :: rest) (offIncl_tail hoff)
    refine ⟨fun ha f => ?_, fun ha => ?_⟩
    · obtain ⟨c, v, rfl, hl, hu, ha'⟩ := altFrom_lower ha
      obtain ⟨d, w, rfl, hdu, -, -⟩ := altFrom_upper ha'
      simp only [scanLoop, hl, hu, hdu, Bool.false_and, Bool.and_false, Bool.and_self,
        Bool.false_eq_true, if_false, if_true, ih.2 ha', List.tail_cons, inPairs,
        lower_holds h hl (hoff c v List.mem_cons_self),
        upper_holds h hdu (hoff d w (List.mem_cons_of_mem _ List.mem_cons_self))]
      cases o.gt x v && o.lt x w <;> rfl
    · obtain ⟨c, v, rfl, hu, hl, ha'⟩ := altFrom_upper ha
      obtain ⟨d, w, rfl, hdl, hdu, -⟩ := altFrom_lower ha'
      simp only [scanLoop, hu, hl, hdl, hdu, Bool.false_and, Bool.and_self, Bool.false_eq_true,
        if_false, if_true, ih.1 ha', List.tail_cons]

/-- the scan as `contains_version` starts it, with `first_iteration = True` -/
theorem scanLoop_eq_inIntervals (h : Lawful o cmp) (x : V) (b n : Con V) (rest : List (Con V))
    (hb : allBounds (b :: n :: rest)) (halt : altB (b :: n :: rest) = true)
    (hoff : offIncl cmp x (b :: n :: rest)) :
    scanLoop o x true (b :: n :: rest) = .ok (inIntervals cmp x (b :: n :: rest)) := by
  have ha := altFrom_of_altB _ _ hb halt
  cases hu : b.isUpper <;> rw [hu] at ha
  · rw [(scanLoop_spec h x _ hoff).1 ha, inIntervals, hu]; rfl
  · -- the first iteration alone tests the leading upper bound
    obtain ⟨c, v, rfl, hcu, hcl, ha'⟩ := altFrom_upper ha
    obtain ⟨d, w, rfl, hdl, hdu, -⟩ := altFrom_lower ha'
    have ih := (scanLoop_spec h x _ (offIncl_tail hoff)).1 ha' false
    simp only [scanLoop, inIntervals, hu, hcu, hcl, hdl, hdu, ih, Bool.true_and,
      Bool.and_self, Bool.false_eq_true, if_false, if_true,
      upper_holds h hcu (hoff c v List.mem_cons_self)]
    cases o.lt x v <;> rfl

theorem holds_of_at_incl {x v : V} {c : Cmpr} (hc : c = .ge ∨ c = .le) (hx : cmp x v = .eq) :
    (Con.mk c v).holds cmp x = true := by
  rcases hc with rfl | rfl <;> simp [Con.holds, Cmpr.holds, hx]

theorem upper_holds_of_lt {x w : V} {c : Cmpr} (hu : c.isUpper = true) (h : cmp x w = .lt) :
    (Con.mk c w).holds cmp x = true := by
  cases c <;> first | (cases hu; done) | simp [Con.holds, Cmpr.holds, h]

theorem lower_holds_of_gt {x u : V} {c : Cmpr} (hl : c.isLower = true) (h : cmp x u = .gt) :
    (Con.mk c u).holds cmp x = true := by
  cases c <;> first | (cases hl; done) | simp [Con.holds, Cmpr.holds, h]

theorem inPairs_of_at_incl [TransCmp cmp] (x : V) :
    ∀ (bs : List (Con V)), altFrom false bs = true → StrictSorted cmp bs →
      ∀ c v, Con.mk c v ∈ bs → (c = .ge ∨ c = .le) → cmp x v = .eq → inPairs cmp x bs = true
  | [], _, _ => fun c v hm => by cases hm
  | [b], ha, _ => by
    intro c v hm hc hx
    obtain rfl := List.mem_singleton.mp hm
    exact holds_of_at_incl hc hx
  | lo :: hi :: rest, ha, hs => by
    intro c v hm hc hx
    obtain ⟨c1, u, rfl, hl, -, ha'⟩ := altFrom_lower ha
    obtain ⟨c2, w, rfl, hu, -, ha''⟩ := altFrom_upper ha'
    have huw : cmp u w = .lt := (List.pairwise_cons.mp hs).1 _ List.mem_cons_self
    simp only [inPairs, Bool.or_eq_true, Bool.and_eq_true]
    rcases List.mem_cons.mp hm with hm | hm
    · -- the point is the lower bound: it is below the upper bound
      cases hm
      exact Or.inl ⟨holds_of_at_incl hc hx, upper_holds_of_lt hu (TransCmp.lt_of_eq_of_lt hx huw)⟩
    rcases List.mem_cons.mp hm with hm | hm
    · -- the point is the upper bound: it is above the lower bound
      cases hm
      exact Or.inl ⟨lower_holds_of_gt hl
        (TransCmp.gt_of_eq_of_gt hx (OrientedCmp.gt_of_lt huw)), holds_of_at_incl hc hx⟩
    · exact Or.inr (inPairs_of_at_incl x rest ha'' (strictSorted_tail (strictSorted_tail hs))
        c v hm hc hx)

theorem inIntervals_of_at_incl [TransCmp cmp] (x : V) (bs : List (Con V)) (hb : allBounds bs)
    (halt : altB bs = true) (hs : StrictSorted cmp bs) (c : Cmpr) (v : V) (hm : Con.mk c v ∈ bs)
    (hc : c = .ge ∨ c = .le) (hx : cmp x v = .eq) : inIntervals cmp x bs = true := by
  cases bs with
  | nil => cases hm
  | cons b rest =>
    have ha := altFrom_of_altB _ _ hb halt
    cases hu : b.isUpper <;> rw [hu] at ha <;> simp only [inIntervals, hu]
    · exact inPairs_of_at_incl x _ ha hs c v hm hc hx
    · obtain ⟨_, _, rfl, -, -, ha'⟩ := altFrom_upper ha
      rcases List.mem_cons.mp hm with hm | hm
      · cases hm; simp [holds_of_at_incl hc hx]
      · simp [inPairs_of_at_incl x rest ha' (strictSorted_tail hs) c v hm hc hx]

end Univers
