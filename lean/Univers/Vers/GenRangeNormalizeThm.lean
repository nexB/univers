/-
Agreement theorems for `VersionRange.from_versions` and `VersionRange.normalize` as translated from
`univers/version_range.py` on every run (`Univers/Gen/PyRangeFromVersions.lean`, `PyRangeNormalize.lean`): they are
the model's `fromVersions` and `normalize` that the theorems of C10 are about.

Versions are given already constructed: `self.version_class(text)` is Layer A's business and is read as the
identity by the translator; the class guards (`isinstance`, `cls.scheme`) are C14's business and hold of every
concrete range class.
-/
import Univers.Gen.PyRangeFromVersions
import Univers.Gen.PyRangeNormalize
import Univers.Vers.GenRangeContainsThm

namespace Univers.Gen.LayerB
open Univers Univers.PyRt

variable {V : Type} (o : VOps V) (perm : List (Con V) → List (Con V))

/-- `VersionRange.from_versions` -/
theorem range_from_versions_eq (vs : List V) : range_from_versions o perm () vs = fromVersions o vs :=
  (pyFor_flatMap (fun v => [Con.mk .eq v]) [] fun _ _ _ => rfl).trans
    (by rw [List.nil_append, ← List.map_eq_flatMap]; rfl)

theorem groupRuns_nonempty (ms : List (V × Bool)) (cur : List V) : ∀ seg ∈ groupRuns ms cur, seg ≠ [] := by
  -- a run is closed only when it is not empty
  have hrev {cur : List V} (h : ¬cur.isEmpty = true) : cur.reverse ≠ [] :=
    fun e => h (List.isEmpty_iff.mpr (List.reverse_eq_nil_iff.mp e))
  fun_induction groupRuns ms cur with
  | case1 => exact fun _ h => nomatch h
  | case2 _ h => exact List.forall_mem_singleton.mpr (hrev h)
  | case3 _ _ _ ih => exact ih
  | case4 _ _ _ _ _ _ ih => exact ih
  | case5 _ _ _ _ _ h ih => exact List.forall_mem_cons.mpr ⟨hrev h, ih⟩

variable (cs : List (Con V)) (ks vs0 : List V)

/-- the second loop (it stands twice in the translation, once for each branch of the test before it; the list of
segments and the open run that the translator passes along are not read) appends the constraints of each segment:
`segCons`, if no segment is empty -/
theorem norm_for2_eq (R0 cont) (R : List (List V)) (hne : ∀ seg ∈ R, seg ≠ []) :
    pyFor R [] (range_normalize_for2_body o perm cs ks vs0 R0 cont) (range_normalize_for2_after o perm cs ks vs0 R0 cont)
      = sortCons o (R.flatMap (segCons o)) := by
  refine (pyFor_flatMap (segCons o) [] fun seg hs acc => ?_).trans rfl
  obtain ⟨a, rest, rfl⟩ := List.exists_cons_of_ne_nil (hne seg hs)
  have hhi := List.getLast?_eq_some_getLast (List.cons_ne_nil a rest)
  generalize (a :: rest).getLast _ = hi at hhi
  simp only [range_normalize_for2_body, segCons, index, last, hhi, List.getElem?_cons_zero, List.head?_cons, mkCon, bind,
    Except.bind]
  cases o.eq a hi <;> simp only [↓reduceIte, Bool.false_eq_true, List.append_assoc, List.cons_append, List.nil_append]

/-- the first loop is `memAll` followed by `groupRuns` (the open run `cont` is the model's `cur`, kept reversed there);
the statements after it flush the open run and go through the second loop -/
theorem norm_for1_eq (vs : List V) (cont : List V) (res : List (List V)) :
    pyFor vs (cont, res) (range_normalize_for1_body o perm cs ks vs0) (range_normalize_for1_after o perm cs ks vs0)
      = (match memAll o cs vs with
         | .error e => .error e
         | .ok ms => pyFor (res ++ groupRuns ms cont.reverse) [] (range_normalize_for2_body o perm cs ks vs0 [] [])
             (range_normalize_for2_after o perm cs ks vs0 [] [])) := by
  induction vs generalizing cont res with
  | nil =>
    rw [pyFor_nil, memAll]
    cases cont with
    | nil => simp only [List.reverse_nil, groupRuns, List.isEmpty_nil, ↓reduceIte, List.append_nil]; rfl
    | cons a l => simp only [groupRuns, List.isEmpty_reverse, List.reverse_reverse]; rfl
  | cons v vs ih =>
    rw [pyFor_cons, memAll, range_normalize_for1_body, range_contains_eq]
    cases containsVersion o v cs with
    | error e => rfl
    | ok b =>
      cases b with
      | true =>
        simp only [bind, Except.bind, ↓reduceIte, Step.cont_next, ih, List.reverse_append]
        cases memAll o cs vs <;> rfl
      | false =>
        cases cont with
        | nil =>
          simp only [bind, Except.bind, Bool.false_eq_true, ↓reduceIte, truthy, List.isEmpty_nil, Bool.not_true,
            Step.cont_next, ih]
          cases memAll o cs vs <;> rfl
        | cons a l =>
          simp only [bind, Except.bind, Bool.false_eq_true, ↓reduceIte, truthy, List.isEmpty_cons, Bool.not_false,
            Step.cont_next, ih]
          cases memAll o cs vs with
          | error e => rfl
          | ok ms =>
            simp only [groupRuns, Bool.false_eq_true, ↓reduceIte, List.isEmpty_reverse, List.isEmpty_cons,
              List.reverse_reverse, List.reverse_nil, List.append_assoc, List.singleton_append]

/-- `VersionRange.normalize` -/
theorem range_normalize_eq (cs : List (Con V)) (ks : List V) :
    range_normalize o perm cs ks = normalize o cs ks := by
  refine (norm_for1_eq o perm cs ks _ _ [] []).trans ?_
  unfold normalize
  cases memAll o cs (sortVers o ks) with
  | error e => rfl
  | ok ms => exact norm_for2_eq o perm cs ks _ _ _ _ (groupRuns_nonempty ms [])

end Univers.Gen.LayerB
