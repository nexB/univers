/-
Agreement theorems for `VersionConstraint.is_star` and `VersionConstraint.invert` (with its local
`INVERTED_COMPARATORS` dict) as translated from the Python source on every run (`Univers/Gen/PyConIsStar.lean`,
`PyConInvert.lean`): they are the model's `Con.isStar` and `Con.invert` that the theorems of C09 are about.
-/
import Univers.Gen.PyConInvert
import Univers.Vers.PyRtLemmas

namespace Univers.Gen.LayerB
open Univers Univers.PyRt

variable {V : Type} (o : VOps V) (perm : List (Con V) → List (Con V))

/-- `VersionConstraint.is_star` -/
theorem con_is_star_eq (c : Con V) : con_is_star o perm c = .ok c.isStar := by
  cases c using comparatorCases <;> eq_refl

/-- `VersionConstraint.invert`: `None` for the star; the `INVERTED_COMPARATORS` lookup never raises `KeyError` and
the constructor never refuses -/
theorem con_invert_eq (c : Con V) : con_invert o perm c = .ok c.invert := by
  cases c using comparatorCases <;> eq_refl

end Univers.Gen.LayerB
