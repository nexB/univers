/-
Helper proofs for C09: the inverse of a well-formed, non-vacuous range is well-formed.
-/
import Univers.Vers.InvertThm

namespace Univers

open Std

variable {V : Type} {o : VOps V} {cmp : V → V → Ordering}

/-- a violated adjacency rule on a filtered list, located in the unfiltered list -/
theorem adj_filter_aux {α : Type} (q : α → Bool) (r : α → α → Bool) (x : α) :
    ∀ (l : List α), (pairwise (x :: l.filter q)).all (fun p => r p.1 p.2) = false →
      (∃ mid b post, l = mid ++ b :: post ∧ q b = true ∧ (∀ m ∈ mid, q m = false) ∧ r x b = false) ∨
      (∃ pre a mid b post, l = pre ++ a :: (mid ++ b :: post) ∧ q a = true ∧ q b = true ∧
        (∀ m ∈ mid, q m = false) ∧ r a b = false)
  | [], h => by simp [pairwise] at h
  | c :: t, h => by
    by_cases hq : q c = true
    · simp only [List.filter_cons, hq, if_true, pairwise, List.all_cons, Bool.and_eq_false_iff] at h
      rcases h with h | h
      · exact Or.inl ⟨[], c, t, rfl, hq, by simp, h⟩
      · rcases adj_filter_aux q r c t h with ⟨mid, b, post, e, hb, hm, hr⟩ | ⟨pre, a, mid, b, post, e, ha, hb, hm, hr⟩
        · exact Or.inr ⟨[], c, mid, b, post, by simp [e], hq, hb, hm, hr⟩
        · exact Or.inr ⟨c :: pre, a, mid, b, post, by simp [e], ha, hb, hm, hr⟩
    · have hq' : q c = false := by cases hh : q c <;> simp_all
      simp only [List.filter_cons, hq', Bool.false_eq_true, if_false] at h
      rcases adj_filter_aux q r x t h with ⟨mid, b, post, e, hb, hm, hr⟩ | ⟨pre, a, mid, b, post, e, ha, hb, hm, hr⟩
      · refine Or.inl ⟨c :: mid, b, post, by simp [e], hb, ?_, hr⟩
        intro m hm'
        simp only [List.mem_cons] at hm'
        rcases hm' with rfl | hm'
        · exact hq'
        · exact hm m hm'
      · exact Or.inr ⟨c :: pre, a, mid, b, post, by simp [e], ha, hb, hm, hr⟩

theorem adj_filter_decomp {α : Type} (q : α → Bool) (r : α → α → Bool) :
    ∀ (l : List α), (pairwise (l.filter q)).all (fun p => r p.1 p.2) = false →
      ∃ pre a mid b post, l = pre ++ a :: (mid ++ b :: post) ∧ q a = true ∧ q b = true ∧
        (∀ m ∈ mid, q m = false) ∧ r a b = false
  | [], h => by simp [pairwise] at h
  | c :: t, h => by
    by_cases hq : q c = true
    · simp only [List.filter_cons, hq, if_true] at h
      rcases adj_filter_aux q r c t h with ⟨mid, b, post, e, hb, hm, hr⟩ | ⟨pre, a, mid, b, post, e, ha, hb, hm, hr⟩
      · exact ⟨[], c, mid, b, post, by simp [e], hq, hb, hm, hr⟩
      · exact ⟨c :: pre, a, mid, b, post, by simp [e], ha, hb, hm, hr⟩
    · have hq' : q c = false := by cases hh : q c <;> simp_all
      simp only [List.filter_cons, hq', Bool.false_eq_true, if_false] at h
      obtain ⟨pre, a, mid, b, post, e, ha, hb, hm, hr⟩ := adj_filter_decomp q r t h
      exact ⟨c :: pre, a, mid, b, post, by simp [e], ha, hb, hm, hr⟩

theorem pairwise_map {α β} (f : α → β) : ∀ l : List α,
    pairwise (l.map f) = (pairwise l).map (fun p => (f p.1, f p.2))
  | [] | [_] => rfl
  | a :: b :: rest => by
    simp only [List.map_cons, pairwise, List.cons.injEq, true_and]
    exact pairwise_map f (b :: rest)

/-- a "!=" followed (ignoring "=") by a lower bound lies outside the intervals: the lower bound
is the first cut above it -/
theorem ne_before_lower_outside [TransCmp cmp] (pre mid post : List (Con V)) (va : V) (b : Con V)
    (hs : StrictSorted cmp (pre ++ .mk .ne va :: (mid ++ b :: post)))
    (halt : altRule (pre ++ .mk .ne va :: (mid ++ b :: post)) = true)
    (hmid : ∀ m ∈ mid, m.isEq = true) (hb : b.isLower = true) :
    inIntervals cmp va ((pre ++ .mk .ne va :: (mid ++ b :: post)).filter Con.isBound) = false := by
  rw [inIntervals_eq_firstAbove va _ (fun y hy => (List.mem_filter.mp hy).2)
    (altRule_eq_altB _ ▸ halt) (hs.filter _)]
  have hfil : (pre ++ .mk .ne va :: (mid ++ b :: post)).filter Con.isBound
      = pre.filter Con.isBound ++ b :: post.filter Con.isBound := by
    have hmidB : mid.filter Con.isBound = [] :=
      List.filter_eq_nil_iff.mpr fun m hm => by simp [Con.not_isBound_of_isEq (hmid m hm)]
    rw [List.filter_append, List.filter_cons_of_neg (fun h => by cases h), List.filter_append,
      hmidB, List.filter_cons_of_pos (Con.isBound_iff.mpr (Or.inr hb)), List.nil_append]
  obtain ⟨_, hsne, hpre⟩ := List.pairwise_append.mp hs
  -- the bounds before the "!=" are cuts below it, `b` is a cut above it
  have hfind : (pre.filter Con.isBound ++ b :: post.filter Con.isBound).find? (cutAbove cmp va)
      = some b := by
    rw [List.find?_append, List.find?_eq_none.mpr, Option.none_or, List.find?_cons_of_pos]
    · obtain ⟨_, _, _, w, h, rfl, hw⟩ :=
        strictSorted_rel ((List.pairwise_cons.mp hsne).1 b (by simp))
      cases h
      simp [cutAbove, OrientedCmp.gt_of_lt hw]
    · intro c hc
      obtain ⟨_, v, _, _, rfl, h, hv⟩ :=
        strictSorted_rel (hpre c (List.mem_filter.mp hc).1 _ List.mem_cons_self)
      cases h
      simp [cutAbove, hv]
  rw [hfil, firstAboveIn, hfind]
  exact Con.not_isUpper_of_isLower hb

/-- the "=" rule of the inverse: a "!=" of the original followed (ignoring "=") by a lower bound
would be vacuous -/
theorem eqRule_map_inv [TransCmp cmp] (cs : List (Con V))
    (hs : StrictSorted cmp cs) (halt : altRule cs = true) (hnv : NonVacuous cmp cs) :
    eqRule (cs.map Con.inv) = true := by
  apply (Bool.not_eq_false _).mp
  intro hr
  -- move the rule to the original list
  have hr' : (pairwise (cs.filter (fun c => !c.isEq))).all
      (fun p => (fun a b : Con V => !(a.isNe && b.isLower)) p.1 p.2) = false := by
    rw [← hr, eqRule, List.filter_map, pairwise_map, List.all_map]
    simp only [Function.comp_def, Con.inv_isNe, Con.inv_isEq, Con.inv_isUpper]
  obtain ⟨pre, a, mid, b, post, rfl, -, -, hm, hrab⟩ :=
    adj_filter_decomp (fun c : Con V => !c.isEq) (fun a b => !(a.isNe && b.isLower)) cs hr'
  simp only [Bool.not_eq_false', Bool.and_eq_true] at hrab
  obtain ⟨va, rfl⟩ : ∃ va, a = .mk .ne va := by
    cases a with
    | star => cases hrab.1
    | mk k va => cases k <;> first | exact ⟨va, rfl⟩ | cases hrab.1
  have hout := ne_before_lower_outside pre mid post va b hs halt
    (fun m hm' => by simpa using hm m hm') hrab.2
  rcases hnv with hall | hall
  · -- all "!=": but `b` is a lower bound
    have hb := Con.not_isBound_of_isNe (List.all_eq_true.mp hall b (by simp))
    rw [Con.isBound_iff.mpr (Or.inr hrab.2)] at hb
    cases hb
  · have : inIntervals cmp va _ = true := hall (.mk .ne va) (by simp)
    rw [hout] at this
    cases this

theorem wfSorted_map_inv [TransCmp cmp] (cs : List (Con V)) (hns : noStar cs = true)
    (hs : StrictSorted cmp cs) (halt : altRule cs = true) (hnv : NonVacuous cmp cs) :
    WFSorted cmp (cs.map Con.inv) := by
  refine Or.inr ⟨by rw [noStar_map_inv]; exact hns, strictSorted_map_inv cs hs,
    eqRule_map_inv cs hs halt hnv, ?_⟩
  rw [altRule_eq_altB, filter_bound_map_inv,
    altB_map_inv _ (fun y hy => (List.mem_filter.mp hy).2), ← altRule_eq_altB]
  exact halt

/-- `VersionRange.invert()` on a star-free version-sorted list: the constraints inverted in place -/
theorem invertRange_sorted [TransCmp cmp] (h : Lawful o cmp) (cs : List (Con V))
    (hns : noStar cs = true) (hs : StrictSorted cmp cs) :
    invertRange o cs = some (.ok (cs.map Con.inv)) := by
  have hsort : mkRange o (cs.filterMap Con.invert) = .ok (cs.map Con.inv) := by
    rw [filterMap_invert_noStar cs hns]
    exact sortCons_eq_of_perm h _ _ (List.Perm.refl _) (by rw [noStar_map_inv]; exact hns)
      (strictSorted_map_inv cs hs)
  unfold invertRange
  split
  · exact absurd rfl (ne_star_of_noStar hns)
  · simp [any_isStar_eq_false hns, hsort]

end Univers
