/-
Helper proofs for C10: `VersionRange.normalize` — blocks of contiguous members.
Part 1: the result as a list of closed blocks `(lo, hi)`, and its well-formedness.
-/
import Univers.Vers.ContainsThm

namespace Univers

open Std

variable {V : Type} {o : VOps V} {cmp : V → V → Ordering}

/-- the constraints of one block: `VersionConstraint(version=lo)` when both ends are `==`,
else `>=lo`, `<=hi` -/
def blockCons (o : VOps V) (b : V × V) : List (Con V) :=
  if o.eq b.1 b.2 then [.mk .eq b.1] else [.mk .ge b.1, .mk .le b.2]

def inBlock (cmp : V → V → Ordering) (x : V) (b : V × V) : Bool :=
  cmp b.1 x != .gt && cmp x b.2 != .gt

theorem segCons_eq_blockCons (seg : List V) (lo hi : V) (h1 : seg.head? = some lo)
    (h2 : seg.getLast? = some hi) : segCons o seg = blockCons o (lo, hi) := by
  simp only [segCons, blockCons, h1, h2]

def blocksSorted (cmp : V → V → Ordering) : List (V × V) → Prop
  | [] => True
  | [b] => cmp b.1 b.2 ≠ .gt
  | b :: c :: rest => cmp b.1 b.2 ≠ .gt ∧ cmp b.2 c.1 = .lt ∧ blocksSorted cmp (c :: rest)

abbrev le' (cmp : V → V → Ordering) (a b : V) : Prop := cmp a b ≠ .gt

theorem isLE_of_le' {a b : V} (h : le' cmp a b) : (cmp a b).isLE = true :=
  Ordering.isLE_iff_ne_gt.mpr h

theorem le'_trans [TransCmp cmp] {a b c : V} (h1 : le' cmp a b) (h2 : le' cmp b c) : le' cmp a c :=
  Ordering.isLE_iff_ne_gt.mp (TransCmp.isLE_trans (isLE_of_le' h1) (isLE_of_le' h2))

theorem le'_refl [ReflCmp cmp] (a : V) : le' cmp a a :=
  Ordering.isLE_iff_ne_gt.mp ReflCmp.isLE_rfl

theorem le'_of_lt {a b : V} (h : cmp a b = .lt) : le' cmp a b :=
  Ordering.isLE_iff_ne_gt.mp (Ordering.isLE_of_eq_lt h)

theorem lt_of_le'_ne {a b : V} (h1 : le' cmp a b) (h2 : cmp a b ≠ .eq) : cmp a b = .lt := by
  cases hc : cmp a b
  · rfl
  · exact absurd hc h2
  · exact absurd hc h1

theorem eq_of_le'_le' [OrientedCmp cmp] {a b : V} (h1 : le' cmp a b) (h2 : le' cmp b a) :
    cmp a b = .eq :=
  OrientedCmp.isLE_antisymm (isLE_of_le' h1) (isLE_of_le' h2)

theorem inBlock_iff {x : V} {b : V × V} :
    inBlock cmp x b = true ↔ le' cmp b.1 x ∧ le' cmp x b.2 := by
  simp only [inBlock, Bool.and_eq_true, bne_iff_ne]

theorem blocksSorted_tail {b : V × V} {t : List (V × V)} (h : blocksSorted cmp (b :: t)) :
    blocksSorted cmp t := by
  cases t with
  | nil => trivial
  | cons c r => exact h.2.2

theorem blocksSorted_le {b : V × V} {t : List (V × V)} (h : blocksSorted cmp (b :: t)) :
    le' cmp b.1 b.2 := by
  cases t with
  | nil => exact h
  | cons c r => exact h.1

theorem blocksSorted_mem_le : ∀ {bs : List (V × V)}, blocksSorted cmp bs → ∀ d ∈ bs, le' cmp d.1 d.2
  | b :: _, h, d, hd => by
    rcases List.mem_cons.mp hd with rfl | hd
    · exact blocksSorted_le h
    · exact blocksSorted_mem_le (blocksSorted_tail h) d hd

theorem blocksSorted_head_lt [TransCmp cmp] : ∀ {b : V × V} {t : List (V × V)},
    blocksSorted cmp (b :: t) → ∀ d ∈ t, cmp b.2 d.1 = .lt
  | b, c :: r, h, d, hd => by
    rcases List.mem_cons.mp hd with rfl | hd
    · exact h.2.1
    · exact TransCmp.lt_trans
        (TransCmp.lt_of_lt_of_isLE h.2.1 (isLE_of_le' (blocksSorted_le h.2.2)))
        (blocksSorted_head_lt h.2.2 d hd)

theorem blocksSorted_pairwise [TransCmp cmp] : ∀ {bs : List (V × V)}, blocksSorted cmp bs →
    bs.Pairwise (fun b d => cmp b.2 d.1 = .lt)
  | [], _ => .nil
  | _ :: _, h => .cons (blocksSorted_head_lt h) (blocksSorted_pairwise (blocksSorted_tail h))

theorem blocks_induction {motive : List (Con V) → Prop} (nil : motive [])
    (eq : ∀ v L, motive L → motive (.mk .eq v :: L))
    (range : ∀ lo hi L, motive L → motive (.mk .ge lo :: .mk .le hi :: L)) (bs : List (V × V)) :
    motive (bs.flatMap (blockCons o)) := by
  induction bs with
  | nil => exact nil
  | cons b t ih =>
    rw [List.flatMap_cons, blockCons]
    split
    · exact eq _ _ ih
    · exact range _ _ _ ih

theorem blocks_eq_nil {bs : List (V × V)} : bs.flatMap (blockCons o) = [] ↔ bs = [] := by
  refine ⟨fun h => ?_, fun h => h ▸ rfl⟩
  cases bs with
  | nil => rfl
  | cons b t =>
    rw [List.flatMap_cons] at h
    unfold blockCons at h
    split at h <;> cases h

theorem blocks_noStar (bs : List (V × V)) : noStar (bs.flatMap (blockCons o)) = true :=
  blocks_induction (motive := fun L => noStar L = true) rfl (fun _ _ ih => ih) (fun _ _ _ ih => ih) bs

/-- what follows an "=" in a block list is `=v` or `>=lo` -/
theorem blocks_eqRule (bs : List (V × V)) : eqRule (bs.flatMap (blockCons o)) = true := by
  let ok (l : List (Con V)) := (pairwise l).all (fun p => !(p.1.isEq && p.2.isUpper)) = true
  have cons : ∀ (c d : Con V) l, d.isUpper = false → ok (d :: l) → ok (c :: d :: l) := by
    intro c d l hd h
    show (!(c.isEq && d.isUpper) && _) = true
    rw [hd, Bool.and_false]
    exact h
  exact (blocks_induction (o := o)
    (motive := fun L => ok (L.filter fun c => !c.isNe) ∧ ∀ c, ok (c :: L.filter fun c => !c.isNe))
    ⟨rfl, fun _ => rfl⟩ (fun _ _ ih => ⟨ih.2 _, fun _ => cons _ _ _ rfl (ih.2 _)⟩)
    (fun _ hi _ ih => ⟨ih.2 (.mk .le hi), fun _ => cons _ _ _ rfl (ih.2 (.mk .le hi))⟩) bs).1

theorem blocks_altRule (bs : List (V × V)) : altRule (bs.flatMap (blockCons o)) = true := by
  rw [altRule_eq_altB]
  exact (blocks_induction (o := o) (motive := fun L =>
    altB (L.filter Con.isBound) = true ∧ ∀ v : V, altB (.mk .le v :: L.filter Con.isBound) = true)
    ⟨rfl, fun _ => rfl⟩ (fun _ _ ih => ih) (fun _ hi _ ih => ⟨ih.2 hi, fun _ => ih.2 hi⟩) bs).1

theorem blockCons_mem {b : V × V} {c : Con V} (hc : c ∈ blockCons o b) :
    c = .mk .eq b.1 ∨ c = .mk .ge b.1 ∨ c = .mk .le b.2 := by
  unfold blockCons at hc
  split at hc
  · exact .inl (List.mem_singleton.mp hc)
  · exact .inr ((List.mem_cons.mp hc).imp_right List.mem_singleton.mp)

theorem blockCons_ver [ReflCmp cmp] {b : V × V} (hb : le' cmp b.1 b.2) {c : Con V}
    (hc : c ∈ blockCons o b) : ∃ k w, c = .mk k w ∧ le' cmp b.1 w ∧ le' cmp w b.2 := by
  rcases blockCons_mem hc with rfl | rfl | rfl
  · exact ⟨_, _, rfl, le'_refl _, hb⟩
  · exact ⟨_, _, rfl, le'_refl _, hb⟩
  · exact ⟨_, _, rfl, hb, le'_refl _⟩

theorem blocks_strictSorted [TransCmp cmp] (h : Lawful o cmp) (bs : List (V × V))
    (hs : blocksSorted cmp bs) : StrictSorted cmp (bs.flatMap (blockCons o)) := by
  refine List.pairwise_flatMap.mpr ⟨fun b hb => ?_, (blocksSorted_pairwise hs).imp_of_mem ?_⟩
  · -- inside a block: `lo < hi` unless the block is `=lo`
    have hle := blocksSorted_mem_le hs b hb
    unfold blockCons
    split
    · exact List.pairwise_singleton _ _
    · next he =>
      rw [h.eq, beq_iff_eq] at he
      exact List.pairwise_pair.mpr (lt_of_le'_ne hle he)
  · -- across blocks: `u ≤ b.2 < d.1 ≤ w`
    intro b d hb hd hbd x hx y hy
    obtain ⟨_, u, rfl, _, hu⟩ := blockCons_ver (blocksSorted_mem_le hs b hb) hx
    obtain ⟨_, w, rfl, hw, _⟩ := blockCons_ver (blocksSorted_mem_le hs d hd) hy
    exact TransCmp.lt_of_isLE_of_lt (isLE_of_le' hu) (TransCmp.lt_of_lt_of_isLE hbd (isLE_of_le' hw))

theorem blocks_wfSorted [TransCmp cmp] (h : Lawful o cmp) (bs : List (V × V))
    (hs : blocksSorted cmp bs) : WFSorted cmp (bs.flatMap (blockCons o)) :=
  .inr ⟨blocks_noStar bs, blocks_strictSorted h bs hs, blocks_eqRule bs, blocks_altRule bs⟩

end Univers
