/-
Agreement theorem for `VersionConstraint.validate` as translated from the Python source on every run
(`Univers/Gen/PyConValidate.lean`): it is the model's `validate` that the theorems of C07 are about.
-/
import Univers.Gen.PyConValidate
import Univers.Vers.GenValidateThm

namespace Univers.Gen.LayerB
open Univers Univers.PyRt

variable {V : Type} (o : VOps V) (perm : List (Con V) → List (Con V))

theorem cval_tab1 (c : Con V) : con_validate_tab1 (comparator c) = c.isStar := by
  cases c using comparatorCases <;> eq_refl

/-- `VersionConstraint.validate` -/
theorem con_validate_eq (cs : List (Con V)) : con_validate o perm cs = validate o cs := by
  simp only [con_validate, validate, cval_tab1, decide_ne_eq_bne, validate_comparators_eq]
  -- what is left differs in how the result of sorting is passed on: `>>=` there, a `match` here
  cases sortCons o cs <;> rfl

end Univers.Gen.LayerB
