/-
Helper proofs for C04: `contains_version` on a well-formed version-sorted list is `denote`.
-/
import Univers.Vers.ContainsThm

namespace Univers

open Std

variable {V : Type} {o : VOps V} {cmp : V → V → Ordering}

theorem Con.hasNeSub_eq (c : Con V) : c.hasNeSub = c.isNe := by
  cases c with
  | star => rfl
  | mk k v => cases k <;> rfl

def Con.isIncl : Con V → Bool
  | .mk .ge _ => true
  | .mk .le _ => true
  | _ => false

theorem Con.hasEqChar_eq (c : Con V) : c.hasEqChar = (c.isNe || c.isEq || c.isIncl) := by
  cases c with
  | star => rfl
  | mk k v => cases k <;> rfl

theorem inIntervals_single (x : V) (b : Con V) (hb : b.isBound = true) :
    inIntervals cmp x [b] = b.holds cmp x := by
  obtain ⟨c, v, rfl, _, _⟩ := isBound_cases hb
  by_cases hu : c.isUpper = true <;> simp [inIntervals, inPairs, Con.isUpper, hu]

theorem denote_single (x : V) (k : Cmpr) (v : V) :
    denote cmp [Con.mk k v] x = (Con.mk k v).holds cmp x := by
  cases k <;>
    simp [denote, Con.isNe, Con.isEq, Con.at, Con.holds, Cmpr.holds, Con.isBound, Con.isUpper,
      Con.isLower, Cmpr.isUpper, Cmpr.isLower, inIntervals, inPairs] <;>
    (generalize cmp x v = r; cases r <;> rfl)

theorem denote_formula (cs : List (Con V)) (hne : cs ≠ [.star]) (x : V) :
    denote cmp cs x =
      (if cs.isEmpty then false
       else if cs.all Con.isNe then cs.all (fun c => !c.at cmp x)
       else if cs.any (fun c => c.isNe && c.at cmp x) then false
       else if cs.any (fun c => c.isEq && c.at cmp x) then true
       else inIntervals cmp x (cs.filter Con.isBound)) := by
  match cs, hne with
  | [], _ => rfl
  | [.star], h => exact absurd rfl h
  | [.mk k v], _ => rfl
  | a :: b :: rest, _ => simp [denote]

/-- the end of `contains_version` on an alternating bound list, off the inclusive points -/
theorem containsBounds_eq_inIntervals (h : Lawful o cmp) (x : V) (cs : List (Con V))
    (hall : cs.all Con.isNe = false) : ∀ B : List (Con V), allBounds B → altB B = true →
      offIncl cmp x B → containsBounds o x cs B = .ok (inIntervals cmp x B)
  | [], _, _, _ => by simp [containsBounds, hall, inIntervals]
  | [b], hb, _, _ => by
    simp [containsBounds, h.sat_eq_holds, inIntervals_single x b (hb b List.mem_cons_self)]
  | b :: n :: rest, hb, halt, hoff => scanLoop_eq_inIntervals h x b n rest hb halt hoff

theorem containsMulti_eq_denote [TransCmp cmp] (h : Lawful o cmp) (cs : List (Con V))
    (hns : noStar cs = true) (hs : StrictSorted cmp cs)
    (halt : altRule cs = true) (x : V) :
    containsMulti o x cs = .ok (denote cmp cs x) := by
  rw [denote_formula cs (ne_star_of_noStar hns) x, containsMulti]
  simp only [Con.hasNeSub_eq, h.verEq_eq_at, filter_bounds_of_noStar cs hns]
  cases hN : cs.any (fun c => c.isNe && c.at cmp x)
  case true =>
    -- excluded by a "!="
    obtain ⟨c, hc, hcn⟩ := List.any_eq_true.mp hN
    rw [Bool.and_eq_true] at hcn
    have hnot : cs.all (fun c => !c.at cmp x) = false :=
      List.all_eq_false.mpr ⟨c, hc, by simp [hcn.2]⟩
    rw [if_pos rfl, if_neg (by rw [List.isEmpty_iff]; rintro rfl; cases hc), hnot]
    cases cs.all Con.isNe <;> rfl
  by_cases hne : cs = []
  · subst hne; rfl
  simp only [Bool.false_eq_true, if_false, List.isEmpty_iff, hne]
  cases hall : cs.all Con.isNe
  case true =>
    -- only "!=" constraints, none of them at `x`
    have hat : ∀ c ∈ cs, c.at cmp x = false := fun c hc =>
      Bool.eq_false_iff.mpr fun h' => List.any_eq_false.mp hN c hc
        (by rw [List.all_eq_true.mp hall c hc, h']; rfl)
    rw [List.any_eq_false.mpr fun c hc => by simp [hat c hc], if_neg Bool.false_ne_true,
      filter_eq_nil_of_all hall fun _ => Con.not_isBound_of_isNe, if_pos rfl,
      List.all_eq_true.mpr fun c hc => by simp [hat c hc]]
    simp [containsBounds, hall, hne]
  simp only [Bool.false_eq_true, if_false]
  have hbnd : allBounds (cs.filter Con.isBound) := fun b hb => (List.mem_filter.mp hb).2
  have haltb : altB (cs.filter Con.isBound) = true := altRule_eq_altB cs ▸ halt
  cases hH : cs.any (fun c => c.hasEqChar && c.at cmp x)
  case false =>
    -- `x` is at no constraint whose comparator contains "=": the scan decides
    have hE : cs.any (fun c => c.isEq && c.at cmp x) = false :=
      List.any_eq_false.mpr fun c hc hce => List.any_eq_false.mp hH c hc
        (by rw [Bool.and_eq_true] at hce ⊢; exact ⟨by simp [Con.hasEqChar_eq, hce.1], hce.2⟩)
    simp only [hE, Bool.false_eq_true, if_false]
    refine containsBounds_eq_inIntervals h x cs hall _ hbnd haltb fun k v hm hk hx => ?_
    refine List.any_eq_false.mp hH _ (List.mem_filter.mp hm).1 ?_
    rcases hk with rfl | rfl <;> simp [Con.hasEqChar, Cmpr.hasEqChar, Con.at, hx]
  case true =>
    simp only [if_true]
    cases hE : cs.any (fun c => c.isEq && c.at cmp x)
    case true => rfl
    -- `x` is at an inclusive bound
    obtain ⟨c, hc, hcc⟩ := List.any_eq_true.mp hH
    rw [Bool.and_eq_true, Con.hasEqChar_eq] at hcc
    have hne' : c.isNe = false := Bool.eq_false_iff.mpr fun h' =>
      List.any_eq_false.mp hN c hc (by rw [h', hcc.2]; rfl)
    have heq : c.isEq = false := Bool.eq_false_iff.mpr fun h' =>
      List.any_eq_false.mp hE c hc (by rw [h', hcc.2]; rfl)
    rw [hne', heq] at hcc
    cases c with
    | star => cases hcc.1
    | mk k v =>
      have hk : k = .ge ∨ k = .le := by cases k <;> first | exact Or.inl rfl | exact Or.inr rfl | cases hcc.1
      rw [if_neg Bool.false_ne_true, inIntervals_of_at_incl x _ hbnd haltb (hs.filter _) k v
        (List.mem_filter.mpr ⟨hc, by rcases hk with rfl | rfl <;> rfl⟩) hk
        (by simpa [Con.at] using hcc.2)]

end Univers
