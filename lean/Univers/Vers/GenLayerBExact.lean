/-
From the Python source to the specification, in one statement each, for the constraint algebra: the functions of
`univers/version_constraint.py` and `univers/version_range.py` as TRANSLATED on every run (`Univers/Gen/Py*.lean`) satisfy
the property's specification directly — the agreement theorem of the translated function (`Vers/Gen*Thm.lean`) followed by
the property theorem of the model (`Props/C04`, `C07`, `C08`, `C09`, `C10`).  Nothing here is new mathematics: these theorems
exist so that the chain "what the code says now ⊨ what the property states" is an object the kernel has checked, and so
that it breaks visibly when either half does.
-/
import Univers.Vers.GenContainsThm
import Univers.Vers.GenRangeContainsThm
import Univers.Vers.GenConValidateThm
import Univers.Vers.GenSimplifyThm
import Univers.Vers.GenRangeInvertThm
import Univers.Props.C04
import Univers.Props.C07
import Univers.Props.C08
import Univers.Props.C09
import Univers.Vers.GenRangeNormalizeThm
import Univers.Props.C10

namespace Univers.Gen.LayerB
open Univers Univers.PyRt Std

variable {V : Type} {o : VOps V} {cmp : V → V → Ordering} (perm : List (Con V) → List (Con V))

/-- C04, source to specification: `contains_version` as translated answers, without raising, the interval-set meaning
of every well-formed version-sorted constraint list. -/
theorem py_contains_version_eq_denote [TransCmp cmp] (h : Lawful o cmp) (cs : List (Con V)) (hwf : WFSorted cmp cs) (x : V) :
    contains_version o perm x cs = .ok (denote cmp cs x) := by
  rw [contains_version_eq]; exact C04.contains_eq_denote h cs hwf x

/-- the same for `VersionRange.__contains__` as translated -/
theorem py_range_contains_eq_denote [TransCmp cmp] (h : Lawful o cmp) (cs : List (Con V)) (hwf : WFSorted cmp cs) (x : V) :
    range_contains o perm cs x = .ok (denote cmp cs x) := by
  rw [range_contains_eq]; exact C04.contains_eq_denote h cs hwf x

/-- C07, source to specification: `VersionConstraint.validate` as translated accepts exactly the well-formed lists -/
theorem py_validate_iff_wf [TransCmp cmp] (h : Lawful o cmp) (cs : List (Con V)) :
    con_validate o perm cs = .ok true ↔ WF cmp cs := by
  rw [con_validate_eq]; exact C07.validate_iff_wf h cs

theorem py_validate_rejects_with_ValueError [TransCmp cmp] (h : Lawful o cmp) (cs : List (Con V)) (hn : ¬ WF cmp cs) :
    con_validate o perm cs = .error .ValueError := by
  rw [con_validate_eq]; exact C07.validate_rejects_with_ValueError h cs hn

/-- C08, source to specification: `VersionConstraint.simplify` as translated returns a sub-list with the same meaning
that validation (as translated) accepts and that is a fixed point, for every iteration order of the intermediate set. -/
theorem py_simplify_spec [TransCmp cmp] (h : Lawful o cmp) (hperm : ∀ l, (perm l).Perm l)
    (cs : List (Con V)) (hns : noStar cs = true) (hs : StrictSorted cmp cs) :
    ∃ R, con_simplify o perm cs = .ok R ∧ R.Sublist cs ∧
      (∀ x, denoteR cmp R x = denoteR cmp cs x) ∧
      con_validate o perm R = .ok true ∧
      con_simplify o perm R = .ok R := by
  simp only [con_simplify_eq, con_validate_eq]
  exact C08.simplify_spec h perm hperm cs hns hs

/-- C09, source to specification: `VersionRange.invert` as translated returns, for a well-formed range without vacuous
constraints, a well-formed range that contains a version (for `contains_version` as translated) exactly when the original
does not. -/
theorem py_invert_complement [TransCmp cmp] (h : Lawful o cmp) (cs : List (Con V))
    (hwf : WFSorted cmp cs) (hstar : cs ≠ [.star]) (hne : cs ≠ []) (hnv : NonVacuous cmp cs) :
    ∃ inv, range_invert o perm cs = .ok (some inv) ∧ WFSorted cmp inv ∧
      (∀ x, contains_version o perm x inv = .ok (!denote cmp cs x)) := by
  simp only [range_invert_eq, contains_version_eq]
  obtain ⟨inv, h1, h2, _, h4, _⟩ := C09.invert_complement h cs hwf hstar hne hnv
  exact ⟨inv, by rw [h1], h2, h4⟩

/-- C10, source to specification: `VersionRange.normalize` as translated returns a range that the translated validation
accepts, and a known version is in it (for `contains_version` as translated) exactly when it is in the original. -/
theorem py_normalize_accepted_and_members [TransCmp cmp] (h : Lawful o cmp) (cs : List (Con V)) (hwf : WFSorted cmp cs)
    (ks : List V) :
    ∃ r, range_normalize o perm cs ks = .ok r ∧ WFSorted cmp r ∧ con_validate o perm r = .ok true ∧
      ∀ k ∈ ks, contains_version o perm k r = .ok (denote cmp cs k) := by
  simp only [range_normalize_eq, con_validate_eq, contains_version_eq]
  obtain ⟨r, h1, h2, h3⟩ := C10.normalize_accepted h cs hwf ks
  obtain ⟨_, h1', h4⟩ := C10.normalize_members h cs hwf ks
  cases h1.symm.trans h1'
  exact ⟨r, h1, h2, h3, fun k hk => (h4 k hk).1⟩

end Univers.Gen.LayerB
