/-
Helper proofs for C10, part 3: the meaning of a block list, separation of consecutive blocks by a
known non-member, and uniqueness (up to version equality) of the canonical block list.
-/
import Univers.Vers.NormalizeGo
import Univers.Vers.ContainsMain

namespace Univers

open Std

variable {V : Type} {o : VOps V} {cmp : V → V → Ordering}

theorem pair_holds [OrientedCmp cmp] (b : V × V) (x : V) :
    ((Con.mk .ge b.1).holds cmp x && (Con.mk .le b.2).holds cmp x) = inBlock cmp x b := by
  have hx1 : cmp x b.1 = (cmp b.1 x).swap := OrientedCmp.eq_swap
  simp only [Con.holds, Cmpr.holds, inBlock, hx1]
  cases cmp b.1 x <;> rfl

theorem eqBlock_inBlock [TransCmp cmp] (h : Lawful o cmp) (b : V × V) (x : V) (he : o.eq b.1 b.2 = true) :
    (cmp x b.1 == .eq) = inBlock cmp x b := by
  rw [h.eq, beq_iff_eq] at he
  have hx1 : cmp b.1 x = (cmp x b.1).swap := OrientedCmp.eq_swap
  rw [inBlock, ← TransCmp.congr_right he, hx1]
  cases cmp x b.1 <;> rfl

/-- on a block list `inIntervals` is `inPairs`: the first bound is a lower one -/
theorem blocks_inIntervals (bs : List (V × V)) (x : V) :
    inIntervals cmp x ((bs.flatMap (blockCons o)).filter Con.isBound) =
      inPairs cmp x ((bs.flatMap (blockCons o)).filter Con.isBound) :=
  blocks_induction (motive := fun L =>
    inIntervals cmp x (L.filter Con.isBound) = inPairs cmp x (L.filter Con.isBound))
    rfl (fun _ _ ih => ih) (fun _ _ _ _ => rfl) bs

theorem blocks_meaning [TransCmp cmp] (h : Lawful o cmp) (x : V) (bs : List (V × V)) :
    ((bs.flatMap (blockCons o)).any (fun c => c.isEq && c.at cmp x) ||
      inPairs cmp x ((bs.flatMap (blockCons o)).filter Con.isBound)) = bs.any (inBlock cmp x) := by
  induction bs with
  | nil => rfl
  | cons b t ih =>
    rw [List.flatMap_cons, List.any_cons, ← ih, blockCons]
    split
    · next he =>
      rw [← eqBlock_inBlock h b x he]
      exact Bool.or_assoc _ _ _
    · rw [← pair_holds b x]
      exact Bool.or_left_comm _ _ _

theorem denote_plain (L : List (Con V)) (hns : noStar L = true)
    (hne : L.all (fun c => !c.isNe) = true) (x : V) : denote cmp L x =
      (L.any (fun c => c.isEq && c.at cmp x) || inIntervals cmp x (L.filter Con.isBound)) := by
  rw [denote_formula L (ne_star_of_noStar hns)]
  cases L with
  | nil => rfl
  | cons c t =>
    rw [all_eq_false_of_all (List.cons_ne_nil c t) hne fun _ => (Bool.not_eq_true' _).mp,
      any_eq_false_of_all hne fun _ hc => by rw [(Bool.not_eq_true' _).mp hc]; rfl]
    cases (c :: t).any (fun c => c.isEq && c.at cmp x) <;> rfl

theorem blocks_noNe (bs : List (V × V)) :
    (bs.flatMap (blockCons o)).all (fun c => !c.isNe) = true :=
  blocks_induction (motive := fun L => L.all (fun c => !c.isNe) = true) rfl (fun _ _ ih => ih)
    (fun _ _ _ ih => ih) bs

theorem denote_blockList [TransCmp cmp] (h : Lawful o cmp) (bs : List (V × V)) (x : V) :
    denote cmp (bs.flatMap (blockCons o)) x = bs.any (inBlock cmp x) := by
  rw [denote_plain _ (blocks_noStar bs) (blocks_noNe bs), blocks_inIntervals, blocks_meaning h]

theorem go_sep [TransCmp cmp] (mem : V → Bool) (hmem : ∀ a b, cmp a b = .eq → mem a = mem b) :
    ∀ (S : List V) (cur : Option (V × V)),
      S.Pairwise (le' cmp) →
      (∀ c, cur = some c → le' cmp c.1 c.2 ∧ mem c.2 = true ∧ ∀ s ∈ S, le' cmp c.2 s) →
      sepBy cmp mem S (goBlocks mem S cur) :=
  fun S cur hs hc => ((go_full mem hmem S cur hs hc).2.2 S fun _ h => h).2

def blockEquiv (cmp : V → V → Ordering) (b b' : V × V) : Prop :=
  cmp b.1 b'.1 = .eq ∧ cmp b.2 b'.2 = .eq

def blocksEquiv (cmp : V → V → Ordering) : List (V × V) → List (V × V) → Prop
  | [], [] => True
  | b :: t, b' :: t' => blockEquiv cmp b b' ∧ blocksEquiv cmp t t'
  | _, _ => False

/-- a block list is canonical for the known versions `K`, the membership `mem`, above the threshold `P` -/
structure Canon (cmp : V → V → Ordering) (K : V → Prop) (mem : V → Bool) (P : V → Prop)
    (bs : List (V × V)) : Prop where
  sorted : blocksSorted cmp bs
  ends : ∀ b ∈ bs, K b.1 ∧ K b.2 ∧ P b.1
  memb : ∀ k, K k → P k → bs.any (inBlock cmp k) = mem k
  sep : ∀ b c rest pre, bs = pre ++ b :: c :: rest →
    ∃ k, K k ∧ mem k = false ∧ cmp b.2 k = .lt ∧ cmp k c.1 = .lt

theorem sepBy_tail {mem : V → Bool} {S : List V} {b : V × V} {bs : List (V × V)}
    (h : sepBy cmp mem S (b :: bs)) : sepBy cmp mem S bs := by
  cases bs with
  | nil => trivial
  | cons c r => exact h.2

theorem sepBy_canon {mem : V → Bool} {S : List V} (b c : V × V) (rest : List (V × V)) :
    ∀ pre : List (V × V), sepBy cmp mem S (pre ++ b :: c :: rest) →
      ∃ k, k ∈ S ∧ mem k = false ∧ cmp b.2 k = .lt ∧ cmp k c.1 = .lt
  | [], h => h.1
  | _ :: pre, h => sepBy_canon b c rest pre (sepBy_tail h)

theorem goBlocks_canon [TransCmp cmp] (mem : V → Bool) (hmem : ∀ a b, cmp a b = .eq → mem a = mem b)
    (S : List V) (hs : S.Pairwise (le' cmp)) :
    Canon cmp (· ∈ S) mem (fun _ => True) (goBlocks mem S none) := by
  obtain ⟨g1, g2, g⟩ := go_full mem hmem S none hs nofun
  obtain ⟨g3, g4⟩ := g S fun _ h => h
  exact ⟨g1, fun b hb => ⟨(g3 b hb).1, (g3 b hb).2.2, trivial⟩, fun k hk _ => g2 k hk,
    fun b c rest pre e => sepBy_canon b c rest pre (e ▸ g4)⟩

theorem inBlock_lo [ReflCmp cmp] {b : V × V} (h : le' cmp b.1 b.2) : inBlock cmp b.1 b = true :=
  inBlock_iff.mpr ⟨le'_refl _, h⟩

theorem inBlock_hi [ReflCmp cmp] {b : V × V} (h : le' cmp b.1 b.2) : inBlock cmp b.2 b = true :=
  inBlock_iff.mpr ⟨h, le'_refl _⟩

theorem blocksSorted_lo_le [TransCmp cmp] {b : V × V} {t : List (V × V)}
    (h : blocksSorted cmp (b :: t)) : ∀ c ∈ b :: t, le' cmp b.1 c.1 :=
  List.forall_mem_cons.mpr ⟨le'_refl _, fun c hc =>
    le'_trans (blocksSorted_le h) (le'_of_lt (blocksSorted_head_lt h c hc))⟩

section
variable {K : V → Prop} {mem : V → Bool} {P : V → Prop}

theorem Canon.mem_of_inBlock {bs : List (V × V)} (h : Canon cmp K mem P bs) {b : V × V}
    (hb : b ∈ bs) {k : V} (kk : K k) (pk : P k) (hin : inBlock cmp k b = true) : mem k = true :=
  (h.memb k kk pk).symm.trans (List.any_eq_true.mpr ⟨b, hb, hin⟩)

variable [TransCmp cmp]

theorem Canon.mem_lo {bs : List (V × V)} (h : Canon cmp K mem P bs) {b : V × V} (hb : b ∈ bs) :
    mem b.1 = true :=
  h.mem_of_inBlock hb (h.ends b hb).1 (h.ends b hb).2.2 (inBlock_lo (blocksSorted_mem_le h.sorted b hb))

/-- a canonical list with a block has a member: the other canonical lists are not empty -/
theorem Canon.ne_nil {b : V × V} {t : List (V × V)} (h : Canon cmp K mem P (b :: t))
    (h' : Canon cmp K mem P []) : False := by
  have := h'.memb b.1 (h.ends b List.mem_cons_self).1 (h.ends b List.mem_cons_self).2.2
  rw [h.mem_lo List.mem_cons_self] at this
  cases this

/-- the first block of a canonical list starts at (a version equal to) the least known member above
the threshold -/
theorem canon_head_le {b b' : V × V} {t t' : List (V × V)}
    (h : Canon cmp K mem P (b :: t)) (h' : Canon cmp K mem P (b' :: t')) : le' cmp b'.1 b.1 := by
  obtain ⟨kb1, _, pb1⟩ := h.ends b List.mem_cons_self
  -- `b.1` is a member, so it lies in a block `c` of the other list
  have := h'.memb b.1 kb1 pb1
  rw [h.mem_lo List.mem_cons_self] at this
  obtain ⟨c, hc, hcin⟩ := List.any_eq_true.mp this
  exact le'_trans (blocksSorted_lo_le h'.sorted c hc) (inBlock_iff.mp hcin).1

theorem canon_head_hi_le (hP : ∀ a b, P a → cmp a b = .lt → P b) {b b' : V × V}
    {t t' : List (V × V)} (h : Canon cmp K mem P (b :: t)) (h' : Canon cmp K mem P (b' :: t'))
    (h1 : cmp b.1 b'.1 = .eq) : le' cmp b'.2 b.2 := by
  -- otherwise b.2 < b'.2: the version b'.2 is a known member, so it lies in a later block of
  -- (b :: t), and the separator in front of that block lies inside b'
  intro hgt
  have hlt : cmp b.2 b'.2 = .lt := OrientedCmp.lt_of_gt hgt
  have hle := blocksSorted_le h.sorted
  have hle' := blocksSorted_le h'.sorted
  obtain ⟨_, kb2', _⟩ := h'.ends b' List.mem_cons_self
  obtain ⟨_, _, pb1⟩ := h.ends b List.mem_cons_self
  have pb2' : P b'.2 := hP _ _ pb1 (TransCmp.lt_of_isLE_of_lt (isLE_of_le' hle) hlt)
  have := h.memb b'.2 kb2' pb2'
  rw [h'.mem_of_inBlock List.mem_cons_self kb2' pb2' (inBlock_hi hle')] at this
  obtain ⟨c, hc, hcin⟩ := List.any_eq_true.mp this
  obtain ⟨hc1, hc2⟩ := inBlock_iff.mp hcin
  rcases List.mem_cons.mp hc with rfl | hct
  · exact hc2 hgt
  · cases t with
    | nil => cases hct
    | cons d r =>
      obtain ⟨k, kk, mk, hk1, hk2⟩ := h.sep b d r [] rfl
      have hk_hi : le' cmp k b'.2 := le'_trans (le'_of_lt hk2)
        (le'_trans (blocksSorted_lo_le (blocksSorted_tail h.sorted) c hct) hc1)
      have hk_lo : le' cmp b'.1 k := by
        rw [le', ← TransCmp.congr_left h1]
        exact le'_trans hle (le'_of_lt hk1)
      have pk : P k := hP _ _ pb1 (TransCmp.lt_of_isLE_of_lt (isLE_of_le' hle) hk1)
      have := h'.mem_of_inBlock List.mem_cons_self kk pk (inBlock_iff.mpr ⟨hk_lo, hk_hi⟩)
      rw [mk] at this
      cases this

theorem canon_tail {b : V × V} {t : List (V × V)} (h : Canon cmp K mem P (b :: t)) (hi : V)
    (hhi : cmp b.2 hi = .eq) : Canon cmp K mem (fun k => P k ∧ cmp hi k = .lt) t := by
  have hcong : ∀ k, cmp hi k = cmp b.2 k := fun k => (TransCmp.congr_left hhi).symm
  refine ⟨blocksSorted_tail h.sorted, fun d hd => ?_, fun k kk ⟨pk, hk⟩ => ?_,
    fun c d rest pre e => h.sep c d rest (b :: pre) (by rw [e]; rfl)⟩
  · obtain ⟨a1, a2, a3⟩ := h.ends d (List.mem_cons_of_mem _ hd)
    exact ⟨a1, a2, a3, by rw [hcong]; exact blocksSorted_head_lt h.sorted d hd⟩
  · rw [hcong] at hk
    exact (congrArg (· || _) (inBlock_false_of_gt_hi hk)).symm.trans (h.memb k kk pk)

end

theorem canon_unique [TransCmp cmp] {K : V → Prop} {mem : V → Bool} :
    ∀ (bs bs' : List (V × V)) (P : V → Prop), (∀ a b, P a → cmp a b = .lt → P b) →
      Canon cmp K mem P bs → Canon cmp K mem P bs' → blocksEquiv cmp bs bs' := by
  intro bs
  induction bs with
  | nil =>
    intro bs' P _ h h'
    cases bs' with
    | nil => trivial
    | cons _ _ => exact h'.ne_nil h
  | cons b t ih =>
    intro bs' P hP h h'
    cases bs' with
    | nil => exact h.ne_nil h'
    | cons b' t' =>
      have e1 : cmp b.1 b'.1 = .eq := eq_of_le'_le' (canon_head_le h' h) (canon_head_le h h')
      have e2 : cmp b.2 b'.2 = .eq :=
        eq_of_le'_le' (canon_head_hi_le hP h' h (OrientedCmp.eq_symm e1)) (canon_head_hi_le hP h h' e1)
      exact ⟨⟨e1, e2⟩, ih t' _
        (fun a c ⟨pa, ha⟩ hac => ⟨hP a c pa hac, TransCmp.lt_trans ha hac⟩)
        (canon_tail h b.2 ReflCmp.compare_self) (canon_tail h' b.2 (OrientedCmp.eq_symm e2))⟩

end Univers
