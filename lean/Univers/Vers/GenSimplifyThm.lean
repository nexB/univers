/-
Agreement theorems for `deduplicate`, `simplify_constraints` and `VersionConstraint.simplify`: the functions
GENERATED from the Python source on every run (`Univers/Gen/PyDeduplicate.lean`, `PySimplifyConstraints.lean`,
`PyConSimplify.lean`) are the model functions `deduplicate`, `simplifyConstraints` and `simplify` of
`Univers/Vers/Model.lean` that the theorems of C08 (and C13, C17) are about.  In particular the `while` loop
of `simplify_constraints` never runs out of the fuel the translator gave it.
-/
import Univers.Gen.PyConSimplify
import Univers.Vers.PyRtLemmas

namespace Univers.Gen.LayerB
open Univers Univers.PyRt

variable {V : Type} (o : VOps V) (perm : List (Con V) → List (Con V))

theorem dedup_for_eq (cs0 cs : List (Con V)) (unique seen : List (Con V)) :
    pyFor cs (unique, seen) (deduplicate_for1_body o perm cs0) (deduplicate_for1_after o perm cs0)
      = .ok (unique ++ Univers.deduplicate o seen cs) := by
  induction cs generalizing unique seen with
  | nil => simp only [pyFor_nil, deduplicate_for1_after, Univers.deduplicate, List.append_nil]
  | cons c cs ih =>
    rw [pyFor_cons, Univers.deduplicate, deduplicate_for1_body, setMem]
    cases seen.any (fun s => conEq o s c) <;>
      simp only [Bool.not_false, Bool.not_true, Bool.false_eq_true, ↓reduceIte, Step.cont_next, ih, List.append_assoc,
        List.singleton_append]

/-- `deduplicate` -/
theorem deduplicate_eq (cs : List (Con V)) :
    LayerB.deduplicate o perm cs = .ok (Univers.deduplicate o [] cs) :=
  dedup_for_eq o perm cs cs [] []

/-- the tables of `simplify_constraints`, read at the comparator of a constraint, are the model's predicates -/
theorem sc_tabs (c : Con V) :
    simplify_constraints_tab1 (comparator c) = c.isNe ∧
    simplify_constraints_tab2 (comparator c) = !c.isNe ∧
    simplify_constraints_tab3 (comparator c) = c.isUpper ∧
    simplify_constraints_tab4 (comparator c) = (c.isEq || c.isUpper) ∧
    simplify_constraints_tab5 (comparator c) = (c.isEq || c.isLower) ∧
    simplify_constraints_tab6 (comparator c) = c.isLower := by
  cases c using comparatorCases <;> exact ⟨rfl, rfl, rfl, rfl, rfl, rfl⟩

theorem dropLast_reverse_cons (p : Con V) (st : List (Con V)) : (p :: st).reverse.dropLast = st.reverse := by
  simp

theorem for_body_eq (cs ne : List (Con V)) (c : Con V) (st : List (Con V)) :
    simplify_constraints_for1_body o perm cs ne c st.reverse = .ok (.next (simpStep st c).reverse) := by
  have htop : topIsLower st = st.head?.any Con.isLower := by cases st <;> rfl
  simp only [simplify_constraints_for1_body, simpStep, sc_tabs, last_test, ok_and, htop]
  cases c.isUpper
  · cases ((c.isEq || c.isLower) && st.head?.any Con.isLower) <;>
      simp only [Bool.false_eq_true, ↓reduceIte, List.reverse_cons, bind, Except.bind]
  · -- the `while` loop pops what `dropWhile` drops from the stack kept top first; it never runs out of fuel
    refine (pyWhile_pop (fun p => p.isEq || p.isUpper) (fun st => ?_) (fun _ => rfl) st _ (by simp)).trans ?_
    · simp only [simplify_constraints_while2_cond, last_test, sc_tabs]
    · rw [if_pos rfl, List.reverse_cons]; rfl

theorem for_eq (cs0 ne cs : List (Con V)) (st : List (Con V)) :
    pyFor cs st.reverse (simplify_constraints_for1_body o perm cs0 ne) (simplify_constraints_for1_after o perm cs0 ne)
      = sortCons o (perm (Univers.deduplicate o [] (ne ++ (cs.foldl simpStep st).reverse))) := by
  induction cs generalizing st with
  | nil => rfl
  | cons c cs ih => rw [pyFor_cons, for_body_eq, Step.cont_next, ih]; rfl

/-- `simplify_constraints` -/
theorem simplify_constraints_eq (cs : List (Con V)) :
    simplify_constraints o perm cs = simplifyConstraints o perm cs := by
  simp only [simplify_constraints, simplifyConstraints, sc_tabs, not_truthy, decide_eq_true_eq]
  rw [← for_eq o perm (cs.filter fun c => !c.isNe) (cs.filter Con.isNe) _ []]
  rfl

/-- `VersionConstraint.simplify` -/
theorem con_simplify_eq (cs : List (Con V)) : con_simplify o perm cs = simplify o perm cs := by
  unfold con_simplify simplify
  simp only [deduplicate_eq, simplify_constraints_eq, bind, Except.bind]
  cases simplifyConstraints o perm (Univers.deduplicate o [] cs) <;> rfl

end Univers.Gen.LayerB
