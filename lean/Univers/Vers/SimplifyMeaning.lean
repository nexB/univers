/-
Helper proofs for C08, part 3: the redundant-range meaning `denoteR` as one upward walk, and
the list facts used to pin down the result of `sorted(set(unequal_constraints + constraints))`
(the model reads the `set` as `deduplicate` followed by an arbitrary permutation).
-/
import Univers.Vers.SimplifyWalk
import Univers.Vers.ValidateThm
import Univers.Vers.InvertThm
import Univers.Basic.Swo

namespace Univers

open Std

variable {V : Type} {o : VOps V} {cmp : V → V → Ordering}

theorem mw_eq_any_or_region [TransCmp cmp] (x : V) : ∀ (l : List (Con V)) (p : Bool),
    StrictSorted cmp l →
    mw cmp x p l = (l.any (fun c => c.isEq && c.at cmp x) || regionWalk cmp x p (l.filter Con.isBound))
  | [], p, _ => rfl
  | c :: t, p, hs => by
    have ih := fun q => mw_eq_any_or_region x t q (strictSorted_tail hs)
    cases he : c.isEq with
    | true =>
      rw [mw_cons_eq he, ih, List.any_cons, List.filter_cons, he, Con.not_isBound_of_isEq he,
        Bool.true_and, Bool.or_assoc]
      rfl
    | false =>
      rw [List.any_cons, List.filter_cons, he, Bool.false_and, Bool.false_or]
      cases hb : c.isBound with
      | true =>
        rw [mw_cons_bound hb, if_pos rfl, regionWalk]
        cases hca : cutAbove cmp x c with
        | true =>
          -- nothing later is at `x`
          have hall := above_tail hs (.inr hca)
          rw [List.any_eq_false.mpr fun d hd => by rw [(hall d hd).2, Bool.and_false]; nofun]
          rfl
        | false => exact ih _
      | false => rw [mw_cons_other he hb, ih]; rfl

theorem denoteR_formula (cs : List (Con V)) (hne : cs ≠ [.star]) (x : V) :
    denoteR cmp cs x =
      (if cs.isEmpty then false
       else if cs.all Con.isNe then cs.all (fun c => !c.at cmp x)
       else if cs.any (fun c => c.isNe && c.at cmp x) then false
       else if cs.any (fun c => c.isEq && c.at cmp x) then true
       else inRegion cmp x (cs.filter Con.isBound)) := by
  unfold denoteR
  split
  · rfl
  · exact absurd rfl hne
  · rename_i hnil _
    rw [if_neg (c := cs.isEmpty = true) fun h => hnil (List.isEmpty_iff.mp h)]

theorem denoteR_eq_mw [TransCmp cmp] {cs : List (Con V)} (hns : noStar cs = true)
    (hs : StrictSorted cmp cs) (hr : cs.filter (fun c => !c.isNe) ≠ []) (x : V) :
    denoteR cmp cs x =
      (!(cs.filter Con.isNe).any (fun c => c.at cmp x) &&
        mw cmp x false (cs.filter (fun c => !c.isNe))) := by
  have hall : cs.all Con.isNe = false := Bool.eq_false_iff.mpr fun h =>
    hr (filter_eq_nil_of_all h fun _ hc => by rw [hc]; rfl)
  have hemp : cs.isEmpty = false := by
    cases cs with
    | nil => exact absurd rfl hr
    | cons _ _ => rfl
  rw [denoteR_formula cs (ne_star_of_noStar hns), hemp, hall, mw_filter_notNe,
    mw_eq_any_or_region x cs false hs, List.any_filter]
  simp only [Bool.false_eq_true, if_false, inRegion]
  cases cs.any (fun c => c.isNe && c.at cmp x) <;> cases cs.any (fun c => c.isEq && c.at cmp x) <;> rfl

theorem strictSorted_perm_eq [TransCmp cmp] (h : Lawful o cmp) (l₁ l₂ : List (Con V))
    (h1 : StrictSorted cmp l₁) (h2 : StrictSorted cmp l₂) (hp : l₁.Perm l₂) : l₁ = l₂ :=
  List.Perm.eq_of_pairwise (le := fun a b => conLe o a b = true)
    (fun a b ha hb => strictSorted_antisymm h l₂ h2 a b (hp.mem_iff.mp ha) hb)
    (strictSorted_pairwise_le h l₁ h1) (strictSorted_pairwise_le h l₂ h2) hp

theorem strictSorted_ne_of_lt [OrientedCmp cmp] {k k2 : Cmpr} {u w : V} (h : cmp u w = .lt) :
    Con.mk k u ≠ Con.mk k2 w := by
  intro e
  injection e with _ e2
  subst e2
  rw [ReflCmp.compare_self (cmp := cmp)] at h
  cases h

theorem exists_sublist_of_filter {α} (p : α → Bool) : ∀ (l B : List α),
    B.Sublist (l.filter fun a => !p a) →
    ∃ R : List α, R.Sublist l ∧ R.filter p = l.filter p ∧ R.filter (fun a => !p a) = B
  | [], B, h => by
    cases List.sublist_nil.mp h
    exact ⟨[], .slnil, rfl, rfl⟩
  | a :: l, B, h => by
    cases hp : p a with
    | true =>
      rw [List.filter_cons_of_neg (by simp [hp])] at h
      obtain ⟨R, h1, h2, h3⟩ := exists_sublist_of_filter p l B h
      exact ⟨a :: R, h1.cons_cons a, by simp [hp, h2], by simp [hp, h3]⟩
    | false =>
      rw [List.filter_cons_of_pos (by simp [hp]), List.sublist_cons_iff] at h
      rcases h with h | ⟨B', rfl, h⟩
      · obtain ⟨R, h1, h2, h3⟩ := exists_sublist_of_filter p l B h
        exact ⟨R, h1.cons a, by simp [hp, h2], h3⟩
      · obtain ⟨R, h1, h2, h3⟩ := exists_sublist_of_filter p l B' h
        exact ⟨a :: R, h1.cons_cons a, by simp [hp, h2], by simp [hp, h3]⟩

theorem sublist_eq_of_filter_eq {α} {p : α → Bool} {l₁ l₂ : List α} (hs : l₁.Sublist l₂)
    (h1 : l₁.filter p = l₂.filter p)
    (h2 : l₁.filter (fun a => !p a) = l₂.filter (fun a => !p a)) : l₁ = l₂ :=
  hs.eq_of_length (by
    rw [← (List.filter_append_perm p l₁).length_eq, ← (List.filter_append_perm p l₂).length_eq,
      h1, h2])

theorem verSame_of_conEq {s c : Con V} (h : conEq o s c = true) : verSame o s c = true := by
  cases s <;> cases c <;> first | exact h | exact (Bool.and_eq_true_iff.mp h).2

theorem deduplicate_of_apart (seen l : List (Con V))
    (h1 : ∀ c ∈ l, ∀ s ∈ seen, verSame o s c = false)
    (h2 : l.Pairwise (fun a b => verSame o a b = false)) : deduplicate o seen l = l := by
  induction l generalizing seen with
  | nil => rfl
  | cons c t ih =>
    obtain ⟨hc, ht⟩ := List.pairwise_cons.mp h2
    have hnone : seen.any (fun s => conEq o s c) = false := List.any_eq_false.mpr fun s hs hsc => by
      have := verSame_of_conEq hsc
      rw [h1 c List.mem_cons_self s hs] at this
      cases this
    rw [deduplicate, hnone, if_neg Bool.false_ne_true, ih (c :: seen) ?_ ht]
    intro d hd s hs
    rcases List.mem_cons.mp hs with rfl | hs
    · exact hc d hd
    · exact h1 d (List.mem_cons_of_mem _ hd) s hs

end Univers
