/-
Helper proofs for C08, part 5: what `simplify` returns on a version-sorted star-free list,
whatever the iteration order of the intermediate `set`: all the "!=", and of the rest what the
walk keeps, in the order of the input.
-/
import Univers.Vers.SimplifyMain
import Univers.Vers.SimplifyMeaning

namespace Univers

open Std

variable {V : Type} {o : VOps V} {cmp : V → V → Ordering}

theorem noStar_of_sublist {s cs : List (Con V)} (hsub : s.Sublist cs) (hns : noStar cs = true) :
    noStar s = true :=
  noStar_iff.mpr fun c hc => noStar_iff.mp hns c (hsub.subset hc)

theorem simplify_char [TransCmp cmp] (h : Lawful o cmp)
    (cs : List (Con V)) (hns : noStar cs = true) (hs : StrictSorted cmp cs) :
    ∃ R, (∀ perm : List (Con V) → List (Con V), (∀ l, (perm l).Perm l) →
        simplify o perm cs = .ok R) ∧ R.Sublist cs ∧
      R.filter Con.isNe = cs.filter Con.isNe ∧
      R.filter (fun c => !c.isNe) = simpKept (cs.filter (fun c => !c.isNe)) := by
  -- the versions are pairwise distinct: the first `deduplicate` finds nothing
  unfold simplify
  rw [deduplicate_of_apart [] cs (fun _ _ _ hs => nomatch hs) (strictSorted_apart h cs hs)]
  by_cases hlen : cs.length < 2
  · -- fewer than two constraints: the walk would keep them
    refine ⟨cs, fun _ _ => if_pos hlen, .refl _, rfl, (simpKept_of_red _ (redFwd_of_length_le_one ?_)).symm⟩
    exact Nat.le_trans (List.length_filter_le _ cs) (Nat.le_of_lt_succ hlen)
  by_cases hre : (cs.filter fun c => !c.isNe).isEmpty = true
  · -- only "!="
    refine ⟨_, fun _ _ => by rw [simplifyConstraints, if_neg hlen]; exact if_pos hre,
      List.filter_sublist, by simp [List.filter_filter], ?_⟩
    rw [List.isEmpty_iff.mp hre, List.filter_filter]
    exact List.filter_eq_nil_iff.mpr fun c _ => by simp
  have hK := simpKept_refines (cmp := cmp) (cs.filter fun c => !c.isNe)
  obtain ⟨R, hsub, hne, hrest⟩ := exists_sublist_of_filter Con.isNe cs _ hK.sub
  have hp := List.filter_append_perm Con.isNe R
  rw [hne, hrest] at hp
  have hsR : StrictSorted cmp R := hs.sublist hsub
  have hnsR := noStar_of_sublist hsub hns
  refine ⟨R, fun perm hperm => ?_, hsub, hne, hrest⟩
  rw [simplifyConstraints, if_neg hlen]
  dsimp only
  rw [if_neg hre, show (List.foldl simpStep [] _).reverse = simpKept _ from rfl]
  -- nothing to deduplicate here either, and the sort finds `R`
  rw [deduplicate_of_apart [] _ (fun _ _ _ hs => nomatch hs)
    ((apart_perm h hp).mpr (strictSorted_apart h R hsR))]
  exact sortCons_eq_of_perm h _ R (hp.symm.trans (hperm _).symm) hnsR hsR

end Univers
