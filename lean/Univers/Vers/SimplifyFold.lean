/-
Helper proofs for C08, part 2: the stack walk of `simplify_constraints`.  What it keeps may
stand for what it has read inside any version-sorted list (`Refines`), and is reduced: no
neighbours are left of which the walk would drop one (`redFwd`), so a second walk only pushes.
-/
import Univers.Vers.SimplifyWalk

namespace Univers

open Std

variable {V : Type} {cmp : V → V → Ordering}

/-- `new` may stand for `old` in front of anything that keeps the list version-sorted: it
only removes, and the walk gives the same answer -/
structure Refines (cmp : V → V → Ordering) (new old : List (Con V)) : Prop where
  sub : new.Sublist old
  walk : ∀ S, StrictSorted cmp (old ++ S) → ∀ x p, mw cmp x p (new ++ S) = mw cmp x p (old ++ S)

namespace Refines

variable {a b c : List (Con V)}

theorem refl (a : List (Con V)) : Refines cmp a a := ⟨.refl _, fun _ _ _ _ => rfl⟩

theorem trans (h₁ : Refines cmp a b) (h₂ : Refines cmp b c) : Refines cmp a c :=
  ⟨h₁.sub.trans h₂.sub, fun S hs x p => by
    rw [h₁.walk S (hs.sublist (h₂.sub.append_right S)), h₂.walk S hs]⟩

theorem append_left (h : Refines cmp a b) (K : List (Con V)) : Refines cmp (K ++ a) (K ++ b) :=
  ⟨h.sub.append_left K, fun S hs x p => by
    rw [List.append_assoc] at hs
    rw [List.append_assoc, List.append_assoc]
    exact mw_prefix_congr (fun q => h.walk S (hs.sublist (List.sublist_append_right _ _)) x q) K p⟩

theorem append_right (h : Refines cmp a b) (T : List (Con V)) : Refines cmp (a ++ T) (b ++ T) :=
  ⟨h.sub.append_right T, fun S hs x p => by
    rw [List.append_assoc] at hs ⊢
    rw [List.append_assoc]
    exact h.walk (T ++ S) hs x p⟩

end Refines

/-- popping "=", "<", "<=" off the stack below an upper bound -/
theorem refines_pop [TransCmp cmp] {c : Con V} (hc : c.isUpper = true) : ∀ st : List (Con V),
    Refines cmp ((st.dropWhile fun d => d.isEq || d.isUpper).reverse ++ [c]) (st.reverse ++ [c])
  | [] => .refl _
  | d :: st => by
    rw [List.dropWhile_cons]
    split
    · rename_i hd
      refine (refines_pop hc st).trans ?_
      rw [List.reverse_cons, List.append_assoc]
      exact Refines.append_left ⟨.cons _ (.refl _), fun S hs x p => (mw_drop_before_upper hd hc hs p).symm⟩ _
    · exact .refl _

theorem simpStep_upper {c : Con V} (st : List (Con V)) (hu : c.isUpper = true) :
    simpStep st c = c :: st.dropWhile fun d => d.isEq || d.isUpper := if_pos hu

theorem simpStep_drop {c : Con V} {st : List (Con V)} (hu : c.isUpper = false)
    (h : ((c.isEq || c.isLower) && topIsLower st) = true) : simpStep st c = st := by
  rw [simpStep, hu, h]; rfl

theorem simpStep_push {c : Con V} {st : List (Con V)} (hu : c.isUpper = false)
    (h : ((c.isEq || c.isLower) && topIsLower st) = false) : simpStep st c = c :: st := by
  rw [simpStep, hu, h]; rfl

theorem simpStep_ne_nil (st : List (Con V)) (c : Con V) : simpStep st c ≠ [] := by
  cases hu : c.isUpper with
  | true => rw [simpStep_upper st hu]; exact List.cons_ne_nil _ _
  | false =>
    cases hd : ((c.isEq || c.isLower) && topIsLower st) with
    | true =>
      -- dropped on a lower bound: the stack is not empty
      rw [simpStep_drop hu hd]
      rintro rfl
      cases (Bool.and_eq_true_iff.mp hd).2
    | false => rw [simpStep_push hu hd]; exact List.cons_ne_nil _ _

theorem refines_simpStep [TransCmp cmp] (st : List (Con V)) (c : Con V) :
    Refines cmp (simpStep st c).reverse (st.reverse ++ [c]) := by
  cases hu : c.isUpper with
  | true => rw [simpStep_upper st hu, List.reverse_cons]; exact refines_pop hu st
  | false =>
    cases hdrop : ((c.isEq || c.isLower) && topIsLower st) with
    | true =>
      -- dropped: the top of the stack is a lower bound
      rw [simpStep_drop hu hdrop]
      obtain ⟨hc, htop⟩ := Bool.and_eq_true_iff.mp hdrop
      cases st with
      | nil => cases htop
      | cons l st =>
        rw [List.reverse_cons, List.append_assoc]
        exact Refines.append_left ⟨.cons_cons _ (List.nil_sublist _), fun S hs x p =>
          (mw_drop_after_lower htop hc (strictSorted_tail hs) p).symm⟩ _
    | false => rw [simpStep_push hu hdrop, List.reverse_cons]; exact .refl _

theorem refines_foldl [TransCmp cmp] : ∀ (l st : List (Con V)),
    Refines cmp (l.foldl simpStep st).reverse (st.reverse ++ l)
  | [], st => by rw [List.append_nil]; exact .refl _
  | c :: l, st => by
    have := (refines_foldl l (simpStep st c)).trans ((refines_simpStep st c).append_right l)
    rwa [List.append_assoc] at this

/-- what `simplify_constraints` keeps of the constraints that are not "!=" -/
def simpKept (rest : List (Con V)) : List (Con V) := (rest.foldl simpStep []).reverse

theorem simpKept_refines [TransCmp cmp] (l : List (Con V)) : Refines cmp (simpKept l) l :=
  refines_foldl l []

theorem simpKept_ne_nil (l : List (Con V)) (h : l ≠ []) : simpKept l ≠ [] := by
  cases l with
  | nil => exact absurd rfl h
  | cons c t =>
    rw [simpKept, List.foldl_cons, Ne, List.reverse_eq_nil_iff]
    exact List.foldlRecOn t simpStep (motive := (· ≠ [])) (simpStep_ne_nil [] c)
      fun st _ d _ => simpStep_ne_nil st d

/-- denies exactly the condition under which the walk, reading `b` with `a` on top of the stack,
pops `a` (an upper bound `b`) or drops `b` (any other `b`) -/
def okPair (a b : Con V) : Bool :=
  !((a.isEq || a.isUpper) && b.isUpper) && !(a.isLower && (b.isEq || b.isLower))

def redFwd : List (Con V) → Bool
  | a :: b :: t => okPair a b && redFwd (b :: t)
  | _ => true

theorem redFwd_tail (a : Con V) (t : List (Con V)) (h : redFwd (a :: t) = true) : redFwd t = true := by
  cases t with
  | nil => rfl
  | cons b t' => exact (Bool.and_eq_true_iff.mp h).2

theorem redFwd_of_length_le_one : ∀ {l : List (Con V)}, l.length ≤ 1 → redFwd l = true
  | [], _ => rfl
  | [_], _ => rfl
  | _ :: _ :: _, h => (Nat.not_succ_le_zero _ (Nat.le_of_succ_le_succ h)).elim

theorem redFwd_snoc2 : ∀ (L : List (Con V)) (s t : Con V),
    redFwd (L ++ [s, t]) = (redFwd (L ++ [s]) && okPair s t)
  | [], s, t => Bool.and_comm _ _
  | [a], s, t => by simp only [List.cons_append, List.nil_append, redFwd, Bool.and_true]
  | a :: b :: L, s, t => by
    have ih := redFwd_snoc2 (b :: L) s t
    simp only [List.cons_append, redFwd] at ih ⊢
    rw [ih, Bool.and_assoc]

theorem redFwd_reverse_cons {c : Con V} {st : List (Con V)} :
    redFwd (c :: st).reverse = true ↔
      redFwd st.reverse = true ∧ ∀ t ∈ st.head?, okPair t c = true := by
  cases st with
  | nil => exact ⟨fun _ => ⟨rfl, nofun⟩, fun _ => rfl⟩
  | cons t st =>
    simp only [List.reverse_cons, List.append_assoc, List.cons_append, List.nil_append, redFwd_snoc2,
      Bool.and_eq_true, List.head?_cons, Option.mem_def, Option.some.injEq, forall_eq']

theorem redFwd_reverse_dropWhile (q : Con V → Bool) : ∀ st : List (Con V),
    redFwd st.reverse = true → redFwd (st.dropWhile q).reverse = true
  | [], _ => rfl
  | t :: st, h => by
    rw [List.dropWhile_cons]
    split
    · exact redFwd_reverse_dropWhile q st (redFwd_reverse_cons.mp h).1
    · exact h

theorem okPair_upper {a c : Con V} (hu : c.isUpper = true) : okPair a c = !(a.isEq || a.isUpper) := by
  rw [okPair, hu, Con.not_isLower_of_isUpper hu, Con.not_isEq_of_isBound (Con.isBound_iff.mpr (.inl hu)),
    Bool.and_true, Bool.or_false, Bool.and_false, Bool.not_false, Bool.and_true]

theorem okPair_not_upper {a c : Con V} (hu : c.isUpper = false) :
    okPair a c = !((c.isEq || c.isLower) && a.isLower) := by
  rw [okPair, hu, Bool.and_false, Bool.not_false, Bool.true_and, Bool.and_comm]

theorem simpStep_of_okPair {st : List (Con V)} {c : Con V} (h : ∀ a ∈ st.head?, okPair a c = true) :
    simpStep st c = c :: st := by
  cases hu : c.isUpper with
  | true =>
    rw [simpStep_upper st hu]
    cases st with
    | nil => rfl
    | cons a st =>
      have := h a rfl
      rw [okPair_upper hu] at this
      rw [List.dropWhile_cons_of_neg (by simpa using this)]
  | false =>
    apply simpStep_push hu
    cases st with
    | nil => exact Bool.and_false _
    | cons a st =>
      have := h a rfl
      rw [okPair_not_upper hu] at this
      exact (Bool.not_eq_true' _).mp this

theorem redFwd_simpStep (st : List (Con V)) (c : Con V) (h : redFwd st.reverse = true) :
    redFwd (simpStep st c).reverse = true := by
  cases hu : c.isUpper with
  | true =>
    -- what is left on top of the stack was not popped
    rw [simpStep_upper st hu]
    refine redFwd_reverse_cons.mpr ⟨redFwd_reverse_dropWhile _ st h, fun a ha => ?_⟩
    have hq := List.head?_dropWhile_not (fun d : Con V => d.isEq || d.isUpper) st
    rw [ha] at hq
    rw [okPair_upper hu, hq]
    rfl
  | false =>
    cases hdrop : ((c.isEq || c.isLower) && topIsLower st) with
    | true => rw [simpStep_drop hu hdrop]; exact h
    | false =>
      rw [simpStep_push hu hdrop]
      refine redFwd_reverse_cons.mpr ⟨h, fun a ha => ?_⟩
      cases st with
      | nil => cases ha
      | cons _ _ => cases ha; rw [okPair_not_upper hu, Bool.not_eq_true']; exact hdrop

theorem redFwd_simpKept (l : List (Con V)) : redFwd (simpKept l) = true :=
  List.foldlRecOn l simpStep (motive := fun st => redFwd st.reverse = true) rfl
    fun st h c _ => redFwd_simpStep st c h

theorem foldl_simpStep_of_red : ∀ (l : List (Con V)) (a : Con V) (st : List (Con V)),
    redFwd (a :: l) = true → l.foldl simpStep (a :: st) = l.reverse ++ a :: st
  | [], _, _, _ => rfl
  | c :: l, a, st, h => by
    obtain ⟨hac, hl⟩ := Bool.and_eq_true_iff.mp h
    rw [List.foldl_cons, simpStep_of_okPair (st := a :: st) fun _ ha => by cases ha; exact hac,
      foldl_simpStep_of_red l c _ hl, List.reverse_cons, List.append_assoc]
    rfl

theorem simpKept_of_red (l : List (Con V)) (h : redFwd l = true) : simpKept l = l := by
  cases l with
  | nil => rfl
  | cons c l =>
    rw [simpKept, List.foldl_cons, simpStep_of_okPair (st := []) (fun _ ha => nomatch ha),
      foldl_simpStep_of_red l c [] h, List.reverse_append, List.reverse_reverse]
    rfl

end Univers
