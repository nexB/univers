/-
Helper proofs for C09: inversion of a range is the complement and an involution.
-/
import Univers.Vers.Cuts
import Univers.Vers.SortThm
import Univers.Vers.ContainsMain

namespace Univers

open Std

variable {V : Type} {o : VOps V} {cmp : V → V → Ordering}

/-- `VersionConstraint.invert()` on a versioned constraint -/
def Con.inv : Con V → Con V
  | .star => .star
  | .mk c v => .mk (Con.invertCmpr c) v

theorem filterMap_invert_noStar (cs : List (Con V)) (hns : noStar cs = true) :
    cs.filterMap Con.invert = cs.map Con.inv := by
  induction cs with
  | nil => rfl
  | cons c t ih =>
    simp only [noStar, List.all_cons, Bool.and_eq_true] at hns
    cases c with
    | star => simp [Con.isStar] at hns
    | mk k v =>
      simp only [List.filterMap_cons, Con.invert, List.map_cons, Con.inv]
      rw [ih (by simpa [noStar] using hns.2)]

@[simp] theorem Con.inv_isNe (c : Con V) : c.inv.isNe = c.isEq := by
  cases c with | star => rfl | mk k v => cases k <;> rfl
@[simp] theorem Con.inv_isEq (c : Con V) : c.inv.isEq = c.isNe := by
  cases c with | star => rfl | mk k v => cases k <;> rfl
@[simp] theorem Con.inv_isUpper (c : Con V) : c.inv.isUpper = c.isLower := by
  cases c with | star => rfl | mk k v => cases k <;> rfl
@[simp] theorem Con.inv_isLower (c : Con V) : c.inv.isLower = c.isUpper := by
  cases c with | star => rfl | mk k v => cases k <;> rfl
@[simp] theorem Con.inv_isBound (c : Con V) : c.inv.isBound = c.isBound := by
  cases c with | star => rfl | mk k v => cases k <;> rfl
@[simp] theorem Con.inv_isStar (c : Con V) : c.inv.isStar = c.isStar := by
  cases c <;> rfl
@[simp] theorem Con.inv_at (c : Con V) (x : V) : c.inv.at cmp x = c.at cmp x := by
  cases c <;> rfl
@[simp] theorem Con.inv_inv (c : Con V) : c.inv.inv = c := by
  cases c with | star => rfl | mk k v => cases k <;> rfl
@[simp] theorem Con.inv_cutAbove (c : Con V) (x : V) : cutAbove cmp x c.inv = cutAbove cmp x c := by
  cases c with | star => rfl | mk k v => cases k <;> rfl

theorem Con.inv_holds (c : Cmpr) (v x : V) :
    (Con.mk c v).inv.holds cmp x = !(Con.mk c v).holds cmp x := by
  simp only [Con.inv, Con.holds]
  generalize cmp x v = r
  cases c <;> cases r <;> rfl

theorem noStar_map_inv (cs : List (Con V)) : noStar (cs.map Con.inv) = noStar cs := by
  simp [noStar, List.all_map, Function.comp_def]

theorem strictSorted_map_inv (cs : List (Con V)) (hs : StrictSorted cmp cs) :
    StrictSorted cmp (cs.map Con.inv) := by
  unfold StrictSorted at *
  rw [List.pairwise_map]
  apply List.Pairwise.imp _ hs
  intro a b hab
  obtain ⟨c, u, d, w, rfl, rfl, huw⟩ := strictSorted_rel hab
  exact huw

theorem filter_bound_map_inv (cs : List (Con V)) :
    (cs.map Con.inv).filter Con.isBound = (cs.filter Con.isBound).map Con.inv := by
  rw [List.filter_map]
  congr 1
  apply List.filter_congr
  intro c _
  simp

theorem altB_map_inv (B : List (Con V)) (hb : allBounds B) : altB (B.map Con.inv) = altB B := by
  induction B with
  | nil => rfl
  | cons a t ih =>
    cases t with
    | nil => rfl
    | cons b rest =>
      -- on bounds `inv` exchanges lower and upper, and lower is the negation of upper
      have ih' := ih (fun y hy => hb y (List.mem_cons_of_mem _ hy))
      simp only [List.map_cons, altB, Con.inv_isUpper] at ih' ⊢
      rw [ih', Con.isLower_eq_not_isUpper (hb a List.mem_cons_self),
        Con.isLower_eq_not_isUpper (hb b (List.mem_cons_of_mem _ List.mem_cons_self))]
      cases a.isUpper <;> cases b.isUpper <;> rfl

theorem allBounds_map_inv (B : List (Con V)) (hb : allBounds B) : allBounds (B.map Con.inv) := by
  intro y hy
  obtain ⟨c, hc, rfl⟩ := List.mem_map.mp hy
  simpa using hb c hc

theorem firstAboveIn_map_inv (x : V) (B : List (Con V)) (hb : allBounds B) (hne : B ≠ []) :
    firstAboveIn cmp x (B.map Con.inv) = !firstAboveIn cmp x B := by
  unfold firstAboveIn
  have hcomp : (cutAbove cmp x ∘ Con.inv) = cutAbove cmp x := by
    funext c; simp
  rw [List.find?_map, hcomp, List.getLast?_map]
  cases hf : B.find? (cutAbove cmp x) with
  | some b =>
    simp [Con.isLower_eq_not_isUpper (hb b (List.mem_of_find?_eq_some hf))]
  | none =>
    cases hl : B.getLast? with
    | none => exact absurd (List.getLast?_eq_none_iff.mp hl) hne
    | some b =>
      simp [Con.isLower_eq_not_isUpper (hb b (List.mem_of_getLast? hl))]

theorem inIntervals_map_inv [TransCmp cmp] (x : V) (B : List (Con V)) (hb : allBounds B)
    (halt : altB B = true) (hs : StrictSorted cmp B) (hne : B ≠ []) :
    inIntervals cmp x (B.map Con.inv) = !inIntervals cmp x B := by
  rw [inIntervals_eq_firstAbove x _ (allBounds_map_inv B hb) (by rw [altB_map_inv B hb]; exact halt)
      (strictSorted_map_inv B hs),
    inIntervals_eq_firstAbove x B hb halt hs, firstAboveIn_map_inv x B hb hne]

/-- a list of one point class only ("!=" only, or "=" only): `p` is that class, `q` the other;
the last arm of the right-hand side is never reached -/
private theorem denote_point_only {p q : Con V → Bool} {cs : List (Con V)} (hne : cs ≠ [])
    (hp : cs.all p = true) (hpq : ∀ c, p c = true → q c = false) (x : V) (j : Bool) :
    (if cs.all q = true then cs.all (fun c => !c.at cmp x)
      else if cs.any (fun c => q c && c.at cmp x) = true then false
      else if cs.any (fun c => p c && c.at cmp x) = true then true else false)
    = !(if cs.all p = true then cs.all (fun c => !c.at cmp x)
      else if cs.any (fun c => p c && c.at cmp x) = true then false
      else if cs.any (fun c => q c && c.at cmp x) = true then true else j) := by
  have hq : cs.any (fun c => q c && c.at cmp x) = false :=
    any_eq_false_of_all hp fun c h => by simp [hpq c h]
  rw [if_pos hp, if_neg (by simp [all_eq_false_of_all hne hp hpq]), hq,
    any_and_of_all hp, ← List.not_any_eq_all_not]
  cases cs.any (fun c => c.at cmp x) <;> rfl

theorem denote_map_inv [TransCmp cmp] (cs : List (Con V)) (hns : noStar cs = true)
    (hs : StrictSorted cmp cs) (halt : altRule cs = true) (hnv : NonVacuous cmp cs)
    (hne : cs ≠ []) (x : V) :
    denote cmp (cs.map Con.inv) x = !denote cmp cs x := by
  rw [denote_formula _ (ne_star_of_noStar (by rwa [noStar_map_inv])),
    denote_formula _ (ne_star_of_noStar hns)]
  simp only [List.isEmpty_map, List.isEmpty_eq_false_iff.mpr hne, Bool.false_eq_true, if_false,
    List.all_map, List.any_map, Function.comp_def, Con.inv_isNe, Con.inv_isEq, Con.inv_at,
    filter_bound_map_inv]
  by_cases hN : cs.all Con.isNe = true
  · -- only "!=": the inverse is a list of "="
    rw [filter_eq_nil_of_all hN fun _ => Con.not_isBound_of_isNe]
    exact denote_point_only hne hN (fun _ => Con.not_isEq_of_isNe) x _
  by_cases hE : cs.all Con.isEq = true
  · -- only "=": the inverse is a list of "!="
    rw [filter_eq_nil_of_all hE fun _ => Con.not_isBound_of_isEq]
    simp only [List.map_nil, inIntervals]
    rw [denote_point_only hne hE (fun _ => Con.not_isNe_of_isEq) x, Bool.not_not]
  rw [if_neg hN, if_neg hE]
  -- there is a bound: otherwise some "!=" would be vacuous
  have hB : cs.filter Con.isBound ≠ [] := by
    intro hB
    obtain ⟨c, hc, hce⟩ := List.all_eq_false.mp (Bool.not_eq_true _ ▸ hE)
    obtain ⟨v, rfl⟩ := Con.eq_mk_ne_of_not (noStar_iff.mp hns c hc) (by simpa using hce)
      (by simpa [hc] using List.filter_eq_nil_iff.mp hB c)
    have := (hnv.resolve_left hN) _ hc
    simp [hB, inIntervals] at this
  rw [inIntervals_map_inv x _ (fun b hb => (List.mem_filter.mp hb).2)
    (altRule_eq_altB cs ▸ halt) (hs.filter _) hB]
  -- `x` is at no more than one constraint
  have hexcl : cs.any (fun c => c.isNe && c.at cmp x) = true →
      cs.any (fun c => c.isEq && c.at cmp x) = true → False := by
    intro h1 h2
    obtain ⟨c, hc, hcc⟩ := List.any_eq_true.mp h1
    obtain ⟨d, hd, hdd⟩ := List.any_eq_true.mp h2
    simp only [Bool.and_eq_true] at hcc hdd
    obtain rfl := at_unique cs hs x c d hc hd hcc.2 hdd.2
    rw [Con.not_isEq_of_isNe hcc.1] at hdd
    cases hdd.1
  revert hexcl
  generalize cs.any (fun c => c.isNe && c.at cmp x) = n
  generalize cs.any (fun c => c.isEq && c.at cmp x) = e
  cases n <;> cases e <;> simp

end Univers
