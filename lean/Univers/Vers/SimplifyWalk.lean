/-
Helper proofs for C08, part 1: the meaning of a version-sorted list without "!=" as one
upward walk (`mw`) that reads "=" and bounds together, the two local rewriting steps of the
stack walk of `simplify_constraints`.
-/
import Univers.Vers.Cuts

namespace Univers

open Std

variable {V : Type} {cmp : V → V → Ordering}

/-- One upward walk over a version-sorted list: an "=" at `x` puts `x` in; the first bound
whose cut lies above `x` decides (`p` = the nearest cut below points upward); "!=" and stars are
transparent. -/
def mw (cmp : V → V → Ordering) (x : V) : Bool → List (Con V) → Bool
  | p, [] => p
  | p, c :: t =>
      if c.isEq then c.at cmp x || mw cmp x p t
      else if c.isBound then
        (if cutAbove cmp x c then p || c.isUpper else mw cmp x c.isLower t)
      else mw cmp x p t

variable {x : V} {p : Bool} {c : Con V} {t : List (Con V)}

theorem mw_cons_eq (he : c.isEq = true) : mw cmp x p (c :: t) = (c.at cmp x || mw cmp x p t) := by
  simp only [mw, he, if_true]

theorem mw_cons_bound (hb : c.isBound = true) :
    mw cmp x p (c :: t) = (if cutAbove cmp x c then p || c.isUpper else mw cmp x c.isLower t) := by
  simp only [mw, Con.not_isEq_of_isBound hb, hb, Bool.false_eq_true, if_false, if_true]

theorem mw_cons_other (he : c.isEq = false) (hb : c.isBound = false) :
    mw cmp x p (c :: t) = mw cmp x p t := by
  simp only [mw, he, hb, Bool.false_eq_true, if_false]

theorem mw_cons_upper (hu : c.isUpper = true) :
    mw cmp x p (c :: t) = (cutAbove cmp x c || mw cmp x false t) := by
  rw [mw_cons_bound (Con.isBound_iff.mpr (.inl hu)), hu, Con.not_isLower_of_isUpper hu, Bool.or_true]
  cases cutAbove cmp x c <;> rfl

theorem mw_cons_lower (hl : c.isLower = true) :
    mw cmp x p (c :: t) = (if cutAbove cmp x c then p else mw cmp x true t) := by
  rw [mw_cons_bound (Con.isBound_iff.mpr (.inr hl)), hl, Con.not_isUpper_of_isLower hl, Bool.or_false]

theorem mw_prefix_congr {A B : List (Con V)} (h : ∀ p, mw cmp x p A = mw cmp x p B) :
    ∀ (K : List (Con V)) (p : Bool), mw cmp x p (K ++ A) = mw cmp x p (K ++ B)
  | [], p => h p
  | c :: t, p => by
    simp only [List.cons_append, mw]
    rw [mw_prefix_congr h t p, mw_prefix_congr h t c.isLower]

theorem mw_filter_notNe (x : V) : ∀ (l : List (Con V)) (p : Bool),
    mw cmp x p (l.filter (fun c => !c.isNe)) = mw cmp x p l
  | [], _ => rfl
  | c :: t, p => by
    cases hn : c.isNe with
    | true =>
      rw [mw_cons_other (Con.not_isEq_of_isNe hn) (Con.not_isBound_of_isNe hn), ← mw_filter_notNe x t p]
      simp only [List.filter_cons, hn, Bool.not_true, Bool.false_eq_true, if_false]
    | false =>
      simp only [List.filter_cons, hn, Bool.not_false, if_true, mw]
      rw [mw_filter_notNe x t p, mw_filter_notNe x t c.isLower]

theorem above_tail [TransCmp cmp] {S : List (Con V)} (hs : StrictSorted cmp (c :: S))
    (h : c.at cmp x = true ∨ cutAbove cmp x c = true) :
    ∀ d ∈ S, cutAbove cmp x d = true ∧ d.at cmp x = false := by
  intro d hd
  obtain ⟨k, v, _, w, rfl, rfl, hvw⟩ := strictSorted_rel ((List.pairwise_cons.mp hs).1 d hd)
  have hwv : cmp w v = .gt := OrientedCmp.gt_of_lt hvw
  have hwx : cmp w x = .gt := by
    simp only [Con.at, cutAbove, Bool.or_eq_true, Bool.and_eq_true, beq_iff_eq] at h
    rcases h with h | h | ⟨h, _⟩
    · exact TransCmp.gt_of_gt_of_eq hwv (OrientedCmp.eq_symm h)
    · exact TransCmp.gt_trans hwv h
    · exact TransCmp.gt_of_gt_of_eq hwv h
  exact ⟨by rw [cutAbove, hwx]; rfl, by rw [Con.at, OrientedCmp.lt_of_gt hwx]; rfl⟩

theorem mw_true_of_above : ∀ {l : List (Con V)}, (∀ c ∈ l, cutAbove cmp x c = true) →
    mw cmp x true l = true
  | [], _ => rfl
  | c :: t, h => by
    have ih := mw_true_of_above (l := t) fun d hd => h d (List.mem_cons_of_mem _ hd)
    cases he : c.isEq with
    | true => rw [mw_cons_eq he, ih, Bool.or_true]
    | false =>
      cases hb : c.isBound with
      | true => rw [mw_cons_bound hb, if_pos (h c List.mem_cons_self), Bool.true_or]
      | false => rw [mw_cons_other he hb, ih]

/-- step 1: an "=", "<" or "<=" directly below an upper bound is redundant: wherever it says
yes, the upper bound does too -/
theorem mw_drop_before_upper [TransCmp cmp] {d : Con V} {S : List (Con V)}
    (hd : (d.isEq || d.isUpper) = true) (hc : c.isUpper = true)
    (hs : StrictSorted cmp (d :: c :: S)) (p : Bool) :
    mw cmp x p (d :: c :: S) = mw cmp x p (c :: S) := by
  have key : d.at cmp x = true ∨ cutAbove cmp x d = true → cutAbove cmp x c = true :=
    fun h => (above_tail hs h c List.mem_cons_self).1
  rcases Bool.or_eq_true_iff.mp hd with he | hu
  · rw [mw_cons_eq he, mw_cons_upper hc]
    exact Bool.or_eq_right_iff_imp.mpr fun hat => by rw [key (.inl hat)]; rfl
  · rw [mw_cons_upper hu, mw_cons_upper hc, mw_cons_upper hc]
    exact Bool.or_eq_right_iff_imp.mpr fun hca => by rw [key (.inr hca)]; rfl

/-- step 2: an "=", ">" or ">=" directly above a lower bound is redundant: where it says yes,
everything later lies above `x` -/
theorem mw_drop_after_lower [TransCmp cmp] {l : Con V} {S : List (Con V)}
    (hl : l.isLower = true) (hc : (c.isEq || c.isLower) = true)
    (hs : StrictSorted cmp (c :: S)) (p : Bool) :
    mw cmp x p (l :: c :: S) = mw cmp x p (l :: S) := by
  have key : c.at cmp x = true ∨ cutAbove cmp x c = true → mw cmp x true S = true :=
    fun h => mw_true_of_above fun d hd => (above_tail hs h d hd).1
  have : mw cmp x true (c :: S) = mw cmp x true S := by
    rcases Bool.or_eq_true_iff.mp hc with he | hl'
    · rw [mw_cons_eq he]
      exact Bool.or_eq_right_iff_imp.mpr fun hat => key (.inl hat)
    · rw [mw_cons_lower hl']
      cases hca : cutAbove cmp x c
      · rfl
      · exact (key (.inr hca)).symm
  rw [mw_cons_lower hl, mw_cons_lower hl, this]

end Univers
