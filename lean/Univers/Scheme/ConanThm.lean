/-
Theorems for scheme `conan`: the comparison of the code is the key order on position-wise
homogeneous versions (C03, C01: partial) and cycles outside that domain; operators (C02), eq/hash
(C12), `str` round trip (C11), `bump` / `upper_bound` (C18).
-/
import Univers.Scheme.ConanSpec
import Univers.Basic.PadLexEq
import Univers.Basic.Digits
import Univers.Text.Str
import Univers.Py.AttrsThm

namespace Univers.Conan

open Std Univers

def sameKind : Item → Item → Bool
  | .int _, .int _ => true
  | .str _, .str _ => true
  | _, _ => false

def itemsCompat : List Item → List Item → Bool
  | a :: as, b :: bs => sameKind a b && itemsCompat as bs
  | _, _ => true

/-- position-wise homogeneous: the main items (without trailing zeros) are position-wise of the
same kind, and so are the pre-releases and the builds (when both have one) -/
def Compat : OV → OV → Bool
  | .ver _ i1 p1 b1, .ver _ i2 p2 b2 =>
    itemsCompat (stripZeros i1) (stripZeros i2) && Compat p1 p2 && Compat b1 b2
  | _, _ => true

example : Compat (parse "1.2.a-rc.1+b1".toList) (parse "1.10.b-beta".toList) = true := by decide +kernel

theorem itemCmp_eq_iff (a b : Item) : itemCmp a b = .eq ↔ a = b := by
  cases a <;> cases b <;>
    simp [itemCmp, charsCmp, lexList_eq_iff fun (_ _ : Char) => compare_eq_iff_eq]

theorem itemEq_iff {a b : Item} : itemEq a b = true ↔ a = b := by
  cases a <;> cases b <;> simp [itemEq]

theorem itemEq_eq (a b : Item) : itemEq a b = (itemCmp a b == .eq) := by
  rw [Bool.eq_iff_iff, beq_iff_eq, itemEq_iff, itemCmp_eq_iff]

theorem itemLt_eq (a b : Item) (h : sameKind a b = true) : itemLt a b = (itemCmp a b == .lt) := by
  cases a <;> cases b <;> simp only [sameKind] at h
  · simp only [itemLt, itemCmp]
    rw [Bool.eq_iff_iff]; simp only [beq_iff_eq, decide_eq_true_eq, Int.compare_eq_lt]
  · cases h
  · cases h
  · rfl

theorem then_beq_eq (a b : Ordering) : (a.then b == .eq) = (a == .eq && b == .eq) := by
  cases a <;> cases b <;> rfl

theorem itemsEq_eq : ∀ (a b : List Item), itemsEq a b = (lexList itemCmp a b == .eq)
  | [], [] => rfl
  | [], _ :: _ => rfl
  | _ :: _, [] => rfl
  | a :: as, b :: bs => by
    simp only [itemsEq, lexList, itemEq_eq, itemsEq_eq as bs, then_beq_eq]

theorem itemsEq_iff {a b : List Item} : itemsEq a b = true ↔ a = b := by
  rw [itemsEq_eq, beq_iff_eq, lexList_eq_iff itemCmp_eq_iff]

theorem itemsLt_eq : ∀ (a b : List Item), itemsCompat a b = true →
    itemsLt a b = (lexList itemCmp a b == .lt)
  | [], [], _ => rfl
  | [], _ :: _, _ => rfl
  | _ :: _, [], _ => rfl
  | a :: as, b :: bs, h => by
    simp only [itemsCompat, Bool.and_eq_true] at h
    simp only [itemsLt, lexList, itemEq_eq, itemLt_eq a b h.1, itemsLt_eq as bs h.2]
    cases itemCmp a b <;> cases lexList itemCmp as bs <;> rfl

theorem eqO_eq (hi : Bool) (a b : OV) : eqO a b = (keyCmpAux hi (key a) (key b) == .eq) := by
  induction a generalizing b hi with
  | none => cases b <;> cases hi <;> rfl
  | ver v i p bl ihp ihb =>
    cases b with
    | none => cases hi <;> rfl
    | ver v2 i2 p2 bl2 =>
      simp only [eqO, key, keyCmpAux, itemsEq_eq, ihp true p2, ihb false bl2, then_beq_eq,
        Bool.and_assoc]

theorem keyCmpAux_ver (hi : Bool) (v1 v2 : List Char) (i1 i2 : List Item) (p1 p2 b1 b2 : OV) :
    keyCmpAux hi (key (.ver v1 i1 p1 b1)) (key (.ver v2 i2 p2 b2)) =
      keyCmpAux false (key (.ver v1 i1 p1 b1)) (key (.ver v2 i2 p2 b2)) := rfl

/-- `Version.__lt__` in one formula: the tuples `(nz, pre, build)` compared lexicographically, an
absent pre-release above every present one -/
theorem ltO_ver (v1 v2 : List Char) (i1 i2 : List Item) (p1 b1 p2 b2 : OV) :
    ltO (.ver v1 i1 p1 b1) (.ver v2 i2 p2 b2) =
      if !itemsEq (stripZeros i1) (stripZeros i2) then itemsLt (stripZeros i1) (stripZeros i2)
      else if !eqO p1 p2 then !p1.isNone && (p2.isNone || ltO p1 p2)
      else if !eqO b1 b2 then ltO b1 b2 else false := by
  simp only [ltO]
  cases p1 <;> cases p2 <;> cases itemsEq (stripZeros i1) (stripZeros i2) <;> rfl

theorem keyCmpAux_true_lt (p1 p2 : OV) : (keyCmpAux true (key p1) (key p2) == .lt) =
    (!p1.isNone && (p2.isNone || keyCmpAux false (key p1) (key p2) == .lt)) := by
  cases p1 <;> cases p2 <;> rfl

theorem ltO_eq (a b : OV) (h : Compat a b = true) :
    ltO a b = (keyCmpAux false (key a) (key b) == .lt) := by
  induction a generalizing b with
  | none => cases b <;> rfl
  | ver v i p bl ihp ihb =>
    cases b with
    | none => rfl
    | ver v2 i2 p2 bl2 =>
      simp only [Compat, Bool.and_eq_true] at h
      simp only [ltO_ver, key, keyCmpAux, itemsEq_eq, itemsLt_eq _ _ h.1.1, eqO_eq true p p2,
        eqO_eq false bl bl2, ihb bl2 h.2, ihp p2 h.1.2, ← keyCmpAux_true_lt]
      -- what is left is a table over the three comparisons
      generalize lexList itemCmp (stripZeros i) (stripZeros i2) = o1
      generalize keyCmpAux true (key p) (key p2) = o2
      generalize keyCmpAux false (key bl) (key bl2) = o3
      cases o1 <;> cases o2 <;> cases o3 <;> rfl

/-- C03 on position-wise homogeneous versions -/
theorem vercmp_eq_key_partial (a b : Raw) (h : Compat a b = true) :
    vercmp a b = keyCmp (key a) (key b) := by
  simp only [vercmp, keyCmp, ltO_eq a b h, eqO_eq false a b]
  cases keyCmpAux false (key a) (key b) <;> rfl

/-! ### order laws (C01) on the homogeneous sub-domain, and the cycle outside it -/

theorem vercmp_oriented_partial (a b : Raw) (h : Compat a b = true) (h' : Compat b a = true) :
    vercmp a b = (vercmp b a).swap := by
  rw [vercmp_eq_key_partial a b h, vercmp_eq_key_partial b a h']; exact OrientedCmp.eq_swap

theorem itemsCompat_symm : ∀ (a b : List Item), itemsCompat a b = itemsCompat b a
  | [], [] => rfl
  | [], _ :: _ => rfl
  | _ :: _, [] => rfl
  | a :: as, b :: bs => by
    simp only [itemsCompat, itemsCompat_symm as bs]
    cases a <;> cases b <;> rfl

theorem Compat_symm (a b : OV) : Compat a b = Compat b a := by
  induction a generalizing b with
  | none => cases b <;> rfl
  | ver v i p bl ihp ihb =>
    cases b with
    | none => rfl
    | ver v2 i2 p2 bl2 => simp only [Compat, itemsCompat_symm (stripZeros i), ihp p2, ihb bl2]

theorem vercmp_isLE_trans_partial (a b c : Raw) (hab : Compat a b = true) (hbc : Compat b c = true)
    (hac : Compat a c = true) :
    (vercmp a b).isLE → (vercmp b c).isLE → (vercmp a c).isLE := by
  rw [vercmp_eq_key_partial a b hab, vercmp_eq_key_partial b c hbc, vercmp_eq_key_partial a c hac]
  exact TransCmp.isLE_trans

theorem vercmp_lt_trans_partial (a b c : Raw) (hab : Compat a b = true) (hbc : Compat b c = true)
    (hac : Compat a c = true) :
    vercmp a b = .lt → vercmp b c = .lt → vercmp a c = .lt := by
  rw [vercmp_eq_key_partial a b hab, vercmp_eq_key_partial b c hbc, vercmp_eq_key_partial a c hac]
  exact TransCmp.lt_trans

/-- a number and a word in the same position: `10 < 1a < 2 < 10` -/
theorem vercmp_trans_counterexample :
    vercmp (parse "10".toList) (parse "1a".toList) = .lt ∧
    vercmp (parse "1a".toList) (parse "2".toList) = .lt ∧
    vercmp (parse "2".toList) (parse "10".toList) = .lt ∧
    verOps.lt (parse "10".toList) (parse "1a".toList) = true ∧
    verOps.lt (parse "1a".toList) (parse "2".toList) = true ∧
    verOps.lt (parse "2".toList) (parse "10".toList) = true ∧
    Compat (parse "10".toList) (parse "1a".toList) = false := by
  decide +kernel

/-! ### homogeneous domains as types: all versions that fit one assignment of kinds -/

def Item.isInt : Item → Bool
  | .int _ => true
  | .str _ => false

def fitsItems (k : Nat → Bool) : Nat → List Item → Bool
  | _, [] => true
  | j, x :: xs => (x.isInt == k j) && fitsItems k (j + 1) xs

/-- `σ path j` tells whether position `j` holds a number, in the main items (`path = []`), in the
pre-release (`path` extended by `false`) or in the build (`path` extended by `true`), nested -/
def Fits (σ : List Bool → Nat → Bool) : List Bool → OV → Bool
  | _, .none => true
  | path, .ver _ i p b =>
    fitsItems (σ path) 0 (stripZeros i) && Fits σ (path ++ [false]) p && Fits σ (path ++ [true]) b

theorem sameKind_eq (a b : Item) : sameKind a b = (a.isInt == b.isInt) := by
  cases a <;> cases b <;> rfl

theorem itemsCompat_of_fits (k : Nat → Bool) : ∀ (j : Nat) (a b : List Item),
    fitsItems k j a = true → fitsItems k j b = true → itemsCompat a b = true
  | _, [], _, _, _ => by cases ‹List Item› <;> rfl
  | _, _ :: _, [], _, _ => rfl
  | j, x :: xs, y :: ys, ha, hb => by
    rw [fitsItems, Bool.and_eq_true, beq_iff_eq] at ha hb
    rw [itemsCompat, sameKind_eq, ha.1, hb.1, beq_self_eq_true, Bool.true_and]
    exact itemsCompat_of_fits k (j + 1) xs ys ha.2 hb.2

theorem compat_of_fits (σ : List Bool → Nat → Bool) (path : List Bool) (a b : OV)
    (ha : Fits σ path a = true) (hb : Fits σ path b = true) : Compat a b = true := by
  induction a generalizing b path with
  | none => cases b <;> rfl
  | ver v i p bl ihp ihb =>
    cases b with
    | none => rfl
    | ver v2 i2 p2 bl2 =>
      simp only [Fits, Bool.and_eq_true] at ha hb
      simp only [Compat, Bool.and_eq_true]
      exact ⟨⟨itemsCompat_of_fits _ 0 _ _ ha.1.1 hb.1.1, ihp _ p2 ha.1.2 hb.1.2⟩,
        ihb _ bl2 ha.2 hb.2⟩

abbrev Dom (σ : List Bool → Nat → Bool) : Type := { v : Raw // Fits σ [] v = true }

def vercmpOn (σ : List Bool → Nat → Bool) (a b : Dom σ) : Ordering := vercmp a.1 b.1

/-- C01: on every homogeneous domain the comparison of the code is a lawful total preorder -/
instance (σ : List Bool → Nat → Bool) : TransCmp (vercmpOn σ) := by
  have : vercmpOn σ = cmpOn (fun (v : Dom σ) => key v.1) keyCmp :=
    funext fun a => funext fun b =>
      vercmp_eq_key_partial a.1 b.1 (compat_of_fits σ [] a.1 b.1 a.2 b.2)
  rw [this]; infer_instance

def numericShape : List Bool → Nat → Bool := fun _ _ => true

/-- semver-like: numeric main items; pre-release a word followed by numbers (`rc.1`); build a word -/
def semverShape : List Bool → Nat → Bool
  | [], _ => true
  | [false], j => j != 0
  | _, _ => false

example : Fits numericShape [] (parse "1.2.0-4+5".toList) = true := by decide +kernel
example : Fits semverShape [] (parse "1.2.3-rc.1+build".toList) = true := by decide +kernel

/-! ### C02: the six operators (all values) -/

theorem itemsEq_imp_not_lt : ∀ (a b : List Item), itemsEq a b = true → itemsLt a b = false
  | [], [], _ => rfl
  | [], _ :: _, h => nomatch h
  | _ :: _, [], _ => rfl
  | a :: as, b :: bs, h => by
    simp only [itemsEq, Bool.and_eq_true] at h
    simp only [itemsLt, h.1, if_true, itemsEq_imp_not_lt as bs h.2]

theorem eqO_imp_not_ltO : ∀ (a b : OV), eqO a b = true → ltO a b = false
  | .none, .none, _ => rfl
  | .none, .ver .., h => nomatch h
  | .ver .., .none, h => nomatch h
  | .ver .., .ver .., h => by
    simp only [eqO, Bool.and_eq_true] at h
    rw [ltO_ver, h.1.1, h.1.2, h.2]; rfl

/-- `attrs` over `functools.total_ordering` over an `__lt__` and an `__eq__` that exclude each
other: the six operators are those of the three-way summary -/
theorem verOps_lawful : Lawful verOps vercmp := by
  refine Py.lawful_attrs (Py.lawful_totalOrdering (fun a b => ?_) fun a b => ?_)
  · unfold vercmp; cases ltO a b <;> cases eqO a b <;> rfl
  · unfold vercmp
    cases he : eqO a b
    · cases ltO a b <;> rfl
    · rw [eqO_imp_not_ltO a b he]; rfl

/-! ### C12: eq and hash (all values) -/

theorem eqO_imp_hash (a b : OV) (h : eqO a b = true) : hashKey a = hashKey b := by
  induction a generalizing b with
  | none => cases b <;> simp_all [eqO]
  | ver v i p bl ihp ihb =>
    cases b with
    | none => simp [eqO] at h
    | ver v2 i2 p2 bl2 =>
      simp only [eqO, Bool.and_eq_true] at h
      obtain ⟨⟨hi, hp⟩, hb⟩ := h
      simp only [hashKey, itemsEq_iff.1 hi, ihp p2 hp, ihb bl2 hb]

theorem eq_imp_hash (a b : Raw) : verOps.eq a b = true → hashKey a = hashKey b :=
  eqO_imp_hash a b

/-- `Version.__init__` with the two nested constructor calls left open -/
def parseStep (nested : List Char → OV) (s : List Char) : OV :=
  match rsplit1 '+' s with
  | some (v, b) =>
    (match rsplit1 '-' v with
     | some (v', p) => .ver s ((splitOn '.' v').map mkItem) (nested p) (nested b)
     | none => .ver s ((splitOn '.' v).map mkItem) .none (nested b))
  | none =>
    (match rsplit1 '-' s with
     | some (v', p) => .ver s ((splitOn '.' v').map mkItem) (nested p) .none
     | none => .ver s ((splitOn '.' s).map mkItem) .none .none)

/-- the nested calls are on strictly shorter strings -/
theorem parseStep_congr {f g : List Char → OV} {s : List Char}
    (h : ∀ t : List Char, t.length < s.length → f t = g t) : parseStep f s = parseStep g s := by
  unfold parseStep
  split
  · next v b h1 =>
    have := rsplit1_length h1
    split
    · next v' p h2 =>
      have := rsplit1_length h2
      rw [h p (by omega), h b (by omega)]
    · rw [h b (by omega)]
  · split
    · next v' p h2 =>
      have := rsplit1_length h2
      rw [h p (by omega)]
    · rfl

theorem parseFuel_stable : ∀ (n m : Nat) (s : List Char), s.length < n → s.length < m →
    parseFuel n s = parseFuel m s
  | 0, _, _, h, _ => absurd h (Nat.not_lt_zero _)
  | _ + 1, 0, _, _, h => absurd h (Nat.not_lt_zero _)
  | n + 1, m + 1, _, hn, hm =>
    parseStep_congr fun t ht => parseFuel_stable n m t (Nat.lt_of_lt_of_le ht (Nat.le_of_lt_succ hn))
      (Nat.lt_of_lt_of_le ht (Nat.le_of_lt_succ hm))

/-- the recursive equation of `Version.__init__`: the fuel never runs out -/
theorem parse_eq (s : List Char) : parse s = parseStep parse s :=
  parseStep_congr (f := parseFuel s.length) fun t ht =>
    parseFuel_stable _ _ t ht (Nat.lt_succ_self _)

/-! ### C11: `str` round trip -/

theorem str_parse (s : List Char) : str (parse s) = s := by
  rw [parse_eq, parseStep]
  split <;> split <;> rfl

theorem normalize_idem (s : List Char) : normalize (normalize s) = normalize s := by
  unfold normalize
  rw [List.filter_eq_self.2 fun x hx =>
    (List.mem_filter.1 ((List.dropWhile_sublist _).subset hx)).2]
  exact Text.Str.dropWhile_idem _ _

/-- every value built by `ConanVersion(string)` is rebuilt from its `str` -/
theorem str_roundtrip (s : List Char) (r : Raw) (h : construct s = .ok r) :
    construct (str r) = .ok r := by
  simp only [construct, Except.ok.injEq] at h
  subst h
  simp only [construct, str_parse, normalize_idem]

/-! ### C18: `bump` / `upper_bound` -/

theorem stripZeros_prefix : ∀ l : List Item, stripZeros l <+: l
  | [] => List.prefix_refl _
  | x :: xs => by
    rw [stripZeros]
    split
    · split
      · exact List.nil_prefix
      · exact List.cons_prefix_cons.2 ⟨rfl, List.nil_prefix⟩
    · exact List.cons_prefix_cons.2 ⟨rfl, stripZeros_prefix xs⟩

/-- stated for every prefix `S` of the items: what is left of them without the trailing zeros,
wherever these end, is one -/
theorem prefix_lt_bumped (n : Int) (rest : List Item) : ∀ (A S : List Item),
    S <+: A ++ .int n :: rest →
    itemsLt S (A ++ [.int (n + 1)]) = true ∧ itemsEq S (A ++ [.int (n + 1)]) = false
  | A, [], _ => by cases A <;> exact ⟨rfl, rfl⟩
  | [], s :: S, h => by
    obtain ⟨rfl, -⟩ := List.cons_prefix_cons.1 h
    have hne : (n == n + 1) = false := beq_eq_false_iff_ne.2 (by omega)
    simp only [List.nil_append, itemsLt, itemsEq, itemEq, itemLt, hne, Bool.false_and,
      Bool.false_eq_true, if_false, decide_eq_true_eq, and_true]
    omega
  | a :: A, s :: S, h => by
    obtain ⟨rfl, h'⟩ := List.cons_prefix_cons.1 h
    simp only [List.cons_append, itemsLt, itemsEq, itemEq_iff.2 rfl, if_true, Bool.true_and]
    exact prefix_lt_bumped n rest A S h'

theorem stripZeros_append_nonzero (x : Item) (hx : x ≠ .int 0) : ∀ (A : List Item),
    stripZeros (A ++ [x]) = A ++ [x]
  | [] => by simp [stripZeros, hx]
  | a :: A => by
    have ih := stripZeros_append_nonzero x hx A
    simp only [List.cons_append, stripZeros, ih]
    cases hA : A ++ [x] with
    | nil => simp at hA
    | cons z zs => rfl

/-! #### the bumped strings parse back to the bumped items -/

theorem rsplit1_none (sep : Char) : ∀ (s : List Char), sep ∉ s → rsplit1 sep s = none
  | [], _ => rfl
  | x :: xs, h => by
    rw [rsplit1, rsplit1_none sep xs fun m => h (List.mem_cons_of_mem _ m), if_neg]
    exact fun e => h (beq_iff_eq.1 e ▸ List.mem_cons_self)

theorem rsplit1_append_sep (sep : Char) : ∀ s : List Char, rsplit1 sep (s ++ [sep]) = some (s, [])
  | [] => by simp [rsplit1]
  | x :: xs => by simp [rsplit1, rsplit1_append_sep sep xs]

theorem splitOn_eq (sep : Char) (s : List Char) : splitOn sep s = Text.Str.splitChar sep s := by
  induction s with
  | nil => rfl
  | cons c cs ih =>
    simp only [splitOn, Text.Str.splitChar, ih, beq_iff_eq]
    cases Text.Str.splitChar sep cs <;> rfl

theorem joinDots_eq : ∀ parts : List (List Char), joinDots parts = Text.Str.join ['.'] parts
  | [] => rfl
  | [_] => rfl
  | x :: y :: r => by
    simp only [joinDots, Text.Str.join, joinDots_eq (y :: r), List.append_assoc, List.singleton_append]

theorem splitOn_joinDots (parts : List (List Char)) (hne : parts ≠ [])
    (h : ∀ p ∈ parts, '.' ∉ p) : splitOn '.' (joinDots parts) = parts := by
  rw [splitOn_eq, joinDots_eq, Text.Str.splitChar_join hne h]

theorem isDigit_eq (c : Char) : isDigit c = c.isDigit := by
  simp only [isDigit, Char.isDigit, Char.le_def, ge_iff_le]

theorem natStr_digits (k : Nat) : ∀ c ∈ natStr k, isDigit c = true :=
  fun c hc => (isDigit_eq c).trans (toDigits_isDigit k c hc)

theorem natStr_ne_nil (k : Nat) : natStr k ≠ [] := Nat.toDigits_ne_nil

theorem intDigits_digits : ∀ (s : List Char), s ≠ [] → (∀ c ∈ s, isDigit c = true) →
    intDigits s = some s
  | [], h, _ => absurd rfl h
  | [c], _, h => by simp [intDigits, h c (by simp)]
  | c :: d :: r, _, h => by
    have hd : d ≠ '_' := fun e => absurd (e ▸ h d (by simp)) (by decide)
    simp [intDigits, hd, h c (by simp),
      intDigits_digits (d :: r) (by simp) fun x hx => h x (List.mem_cons_of_mem _ hx)]

theorem pyInt_digits {s : List Char} (hne : s ≠ []) (hd : ∀ c ∈ s, isDigit c = true) :
    pyInt s = some (Int.ofNat (natVal s)) := by
  unfold pyInt
  split
  · exact absurd (hd _ List.mem_cons_self) (by decide)
  · exact absurd (hd _ List.mem_cons_self) (by decide)
  · rw [intDigits_digits s hne hd]; rfl

theorem mkItem_natStr (k : Nat) : mkItem (natStr k) = .int (Int.ofNat k) := by
  rw [mkItem, pyInt_digits (natStr_ne_nil k) (natStr_digits k)]
  exact congrArg (fun n => Item.int (Int.ofNat n)) Nat.ofDigitChars_ten_toDigits

def natItems (ns : List Nat) : List Item := ns.map (fun k => .int (Int.ofNat k))

theorem natDots_chars (ns : List Nat) : ∀ c ∈ joinDots (ns.map natStr), c = '.' ∨ isDigit c = true := by
  intro c hc
  rw [joinDots_eq] at hc
  rcases Text.Str.mem_join hc with h | ⟨p, hp, hcp⟩
  · exact .inl (List.mem_singleton.1 h)
  · obtain ⟨k, _, rfl⟩ := List.mem_map.1 hp
    exact .inr (natStr_digits k c hcp)

theorem natDots_not_mem (ns : List Nat) (x : Char) (hx : x ≠ '.') (hd : isDigit x = false) :
    x ∉ joinDots (ns.map natStr) := by
  intro h
  rcases natDots_chars ns x h with h' | h'
  · exact hx h'
  · rw [hd] at h'; cases h'

theorem items_natDots (ns : List Nat) (hne : ns ≠ []) :
    (splitOn '.' (joinDots (ns.map natStr))).map mkItem = natItems ns := by
  rw [splitOn_joinDots _ (mt List.map_eq_nil_iff.1 hne), List.map_map]
  · exact List.map_congr_left fun k _ => mkItem_natStr k
  · intro p hp hdot
    obtain ⟨k, _, rfl⟩ := List.mem_map.1 hp
    exact absurd (natStr_digits k '.' hdot) (by decide)

theorem parse_natDots (ns : List Nat) (hne : ns ≠ []) :
    parse (joinDots (ns.map natStr)) =
      .ver (joinDots (ns.map natStr)) (natItems ns) .none .none := by
  rw [parse_eq, parseStep, rsplit1_none '+' _ (natDots_not_mem ns '+' (by decide) (by decide)),
    rsplit1_none '-' _ (natDots_not_mem ns '-' (by decide) (by decide))]
  simp only [items_natDots ns hne]

theorem parse_natDots_dash (ns : List Nat) (hne : ns ≠ []) :
    parse (joinDots (ns.map natStr) ++ ['-']) =
      .ver (joinDots (ns.map natStr) ++ ['-']) (natItems ns) (.ver [] [.str []] .none .none) .none := by
  rw [parse_eq, parseStep, rsplit1_append_sep '-', rsplit1_none '+' _ fun h =>
    (List.mem_append.1 h).elim (natDots_not_mem ns '+' (by decide) (by decide)) (by decide)]
  simp only [items_natDots ns hne]
  rfl

theorem bumpStr_nat (val : List Char) (ms : List Nat) (n : Nat) (rest : List Item) (p b : OV) :
    bumpStr (.ver val (natItems ms ++ .int n :: rest) p b) ms.length =
      .ok (joinDots ((ms ++ [n + 1]).map natStr)) := by
  have hlen : (natItems ms).length = ms.length := List.length_map _
  rw [bumpStr, OV.items, ← hlen, List.getElem?_append_right (Nat.le_refl _), Nat.sub_self,
    List.take_left' rfl]
  simp only [natItems, List.getElem?_cons_zero, Item.succ?, List.map_map, List.map_append]
  rfl

theorem verOps_lt_of_ltO {a b : OV} (h : ltO a b = true) : verOps.lt a b = true := by
  rw [verOps_lawful.lt, vercmp, h]; rfl

def Item.isNat : Item → Bool
  | .int n => decide (0 ≤ n)
  | .str _ => false

/-- domain of C18: the items at positions `0 … i` exist and are natural numbers -/
def natUpTo (v : OV) (i : Nat) : Bool :=
  decide (i < v.items.length) && (v.items.take (i + 1)).all Item.isNat

example : natUpTo (parse "1.2.x-rc+b".toList) 1 = true := by decide +kernel

theorem natUpTo_split : ∀ (i : Nat) (l : List Item), i < l.length →
    (l.take (i + 1)).all Item.isNat = true →
    ∃ (ms : List Nat) (n : Nat) (rest : List Item), l = natItems ms ++ .int n :: rest ∧ ms.length = i
  | _, [], h, _ => absurd h (Nat.not_lt_zero _)
  | _, .str _ :: _, _, h => nomatch h
  | i, .int k :: xs, hl, h => by
    rw [List.take_succ_cons, List.all_cons, Bool.and_eq_true, Item.isNat, decide_eq_true_eq] at h
    have hk : Item.int k = .int (k.toNat : Nat) := by rw [Int.toNat_of_nonneg h.1]
    cases i with
    | zero => exact ⟨[], k.toNat, xs, by rw [hk]; rfl, rfl⟩
    | succ i =>
      obtain ⟨ms, n, rest, rfl, rfl⟩ := natUpTo_split i xs (Nat.lt_of_succ_lt_succ hl) h.2
      exact ⟨k.toNat :: ms, n, rest, by rw [hk]; rfl, rfl⟩

/-- C18: on that domain `upper_bound` and `bump` succeed and `v < v.upper_bound(i) < v.bump(i)` -/
theorem lt_upperBound_lt_bump_of_natUpTo (v : OV) (i : Nat) (h : natUpTo v i = true) :
    ∃ u w, upperBound v i = .ok u ∧ bump v i = .ok w ∧
      verOps.lt v u = true ∧ verOps.lt u w = true := by
  cases v with
  | none => simp [natUpTo, OV.items] at h
  | ver val items p b =>
    simp only [natUpTo, OV.items, Bool.and_eq_true] at h
    obtain ⟨ms, n, rest, rfl, rfl⟩ := natUpTo_split i items (of_decide_eq_true h.1) h.2
    -- the bumped string, and how it parses with and without the dash
    have hs := bumpStr_nat val ms n rest p b
    have hne : ms ++ [n + 1] ≠ [] := List.append_ne_nil_of_right_ne_nil _ (List.cons_ne_nil _ _)
    have hu := parse_natDots_dash _ hne
    have hw := parse_natDots _ hne
    have hitems : natItems (ms ++ [n + 1]) = natItems ms ++ [.int ((n : Int) + 1)] :=
      List.map_append
    rw [hitems] at hu hw
    have hB := stripZeros_append_nonzero (.int ((n : Int) + 1))
      (by intro h; injection h with h; omega) (natItems ms)
    have ⟨h1, h2⟩ := prefix_lt_bumped n rest (natItems ms) _ (stripZeros_prefix _)
    refine ⟨_, _, by rw [upperBound, hs]; rfl, by rw [bump, hs]; rfl, ?_, ?_⟩
    · -- smaller main items: the pre-releases and builds do not count
      simp only [hu]
      exact verOps_lt_of_ltO (by rw [ltO_ver, hB, h2]; exact h1)
    · -- the same main items: the pre-release is below the release
      simp only [hu, hw]
      exact verOps_lt_of_ltO (by rw [ltO_ver, itemsEq_iff.2 rfl]; rfl)

/-- outside that domain C18 fails: the item `-1` bumps to `0`, which is dropped -/
theorem lt_upperBound_counterexample :
    upperBound (parse "1.-1-x".toList) 1 = .ok (parse "1.0-".toList) ∧
    ltO (parse "1.-1-x".toList) (parse "1.0-".toList) = false :=
  ⟨by rfl, by decide +kernel⟩

end Univers.Conan
