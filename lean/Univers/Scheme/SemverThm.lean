/-
Theorems for the semver family: the tuple comparison of `precedence_key` that the code performs
is the SemVer §11 key order (refinement), the operators are the ones induced by it, equal
versions hash equally, `next_*` bracket their version, printing round-trips.
-/
import Univers.Scheme.SemverSpec
import Univers.Vers.Spec
import Univers.Basic.Digits
import Univers.Basic.PadLexEq
import Univers.Py.AttrsThm
import Univers.Text.Str

namespace Univers.Semver

open Std
open Text.Str (splitChar join)

/-! ### CPython tuple comparison is a lexicographic comparison -/

theorem charCmp_eq_iff (x y : Char) : charCmp x y = .eq ↔ x = y :=
  Nat.compare_eq_eq.trans Char.toNat_inj

theorem strCmp_def (a b : List Char) : strCmp a b = lexList charCmp a b := rfl

theorem strCmp_eq_iff (a b : List Char) : strCmp a b = .eq ↔ a = b :=
  lexList_eq_iff charCmp_eq_iff a b

theorem then_of_ne_eq : ∀ {o p : Ordering}, o ≠ .eq → o.then p = o := by decide

theorem tupleEq_eq_lexList {α : Type} {eq : α → α → Bool} {c : α → α → Ordering}
    (heq : ∀ x y, eq x y = (c x y == .eq)) (a b : List α) :
    tupleEq eq a b = (lexList c a b == .eq) := by
  fun_induction lexList c a b
  case case4 x xs y ys ih =>
    simp only [tupleEq, heq, ih]
    cases c x y <;> rfl
  all_goals rfl

/-- `P` is what an ordering operator means on a three-way result; CPython applies the operator
to the first pair of items that differ, or to the lengths. -/
theorem tupleOp_eq_lexList {α : Type} {eq op : α → α → Bool} {c : α → α → Ordering}
    {P : Ordering → Bool} {opLen : Nat → Nat → Bool} (hlen : ∀ m n, opLen m n = P (compare m n))
    (heq : ∀ x y, eq x y = (c x y == .eq))
    (hop : ∀ x y, c x y ≠ .eq → op x y = P (c x y)) (a b : List α) :
    tupleOp eq op opLen a b = P (lexList c a b) := by
  fun_induction lexList c a b
  case case4 x xs y ys ih =>
    simp only [tupleOp, heq]
    by_cases h : c x y = .eq
    · rw [h]; exact ih
    · rw [then_of_ne_eq h, if_neg (by simpa using h)]; exact hop x y h
  all_goals exact hlen _ _

/-- the order the three identifier classes implement: numeric < alphanumeric < Max -/
def identCmp : Ident → Ident → Ordering
  | .num a, .num b => compare a b
  | .num _, .alpha _ => .lt
  | .num _, .max => .lt
  | .alpha _, .num _ => .gt
  | .alpha a, .alpha b => strCmp a b
  | .alpha _, .max => .lt
  | .max, .max => .eq
  | .max, _ => .gt

theorem str_beq_iff (a b : List Char) : (a == b) = (strCmp a b == .eq) := by
  rw [Bool.eq_iff_iff, beq_iff_eq, beq_iff_eq, strCmp_eq_iff]

/-- The operators of the identifier classes are the views of `identCmp`: `NumericIdentifier` and
`AlphaIdentifier` are `total_ordering` classes over `__lt__` and `__eq__`.  `<=` and `>=` between
two `MaxIdentifier`s are not (tuple comparison never asks: such items are `==`). -/
theorem Ident.ops_eq (x y : Ident) :
    Ident.eq x y = (identCmp x y == .eq) ∧ Ident.lt x y = (identCmp x y == .lt) ∧
    Ident.gt x y = (identCmp x y == .gt) ∧
    (identCmp x y ≠ .eq →
      Ident.le x y = (identCmp x y != .gt) ∧ Ident.ge x y = (identCmp x y != .lt)) := by
  cases x <;> cases y
  case num.num a b =>
    have h := Py.lawful_totalOrdering nat_lt_eq_compare nat_beq_eq_compare
    exact ⟨h.eq a b, h.lt a b, h.gt a b, fun _ => ⟨h.le a b, h.ge a b⟩⟩
  case alpha.alpha a b =>
    have h := Py.lawful_totalOrdering (fun _ _ => rfl) str_beq_iff
    exact ⟨h.eq a b, h.lt a b, h.gt a b, fun _ => ⟨h.le a b, h.ge a b⟩⟩
  case max.max => exact ⟨rfl, rfl, rfl, fun h => absurd rfl h⟩
  all_goals exact ⟨rfl, rfl, rfl, fun _ => ⟨rfl, rfl⟩⟩

/-! ### refinement: tuple comparison of `precedence_key` = the §11 key order -/

structure OpOK (o : Op) (P : Ordering → Bool) : Prop where
  nat : ∀ a b, o.nat a b = P (compare a b)
  ident : ∀ x y, identCmp x y ≠ .eq → o.ident x y = P (identCmp x y)
  str : ∀ x y, strCmp x y ≠ .eq → o.str x y = P (strCmp x y)

theorem opLt_ok : OpOK opLt (· == .lt) :=
  ⟨nat_lt_eq_compare, fun x y _ => (Ident.ops_eq x y).2.1, fun _ _ _ => rfl⟩
theorem opGt_ok : OpOK opGt (· == .gt) :=
  ⟨nat_gt_eq_compare, fun x y _ => (Ident.ops_eq x y).2.2.1, fun _ _ _ => rfl⟩
theorem opLe_ok : OpOK opLe (· != .gt) :=
  ⟨nat_le_eq_compare, fun x y h => ((Ident.ops_eq x y).2.2.2 h).1, fun _ _ _ => rfl⟩
theorem opGe_ok : OpOK opGe (· != .lt) :=
  ⟨nat_ge_eq_compare, fun x y h => ((Ident.ops_eq x y).2.2.2 h).2, fun _ _ _ => rfl⟩

/-- one position of `keyOp`: `e` is `==` on the two items, `x` the operator on them, `y` the
operator on the rest of the tuple -/
theorem position_eq {P : Ordering → Bool} {o rest : Ordering} {e x y : Bool}
    (he : e = (o == .eq)) (hx : o ≠ .eq → x = P o) (hy : y = P rest) :
    (if !e then x else y) = P (o.then rest) := by
  subst he
  cases o
  · exact hx (by decide)
  · exact hy
  · exact hx (by decide)

theorem identCmp_identOf (p q : List Char) :
    identCmp (identOf p) (identOf q) = idCmp (sid p) (sid q) := by
  unfold identOf sid
  split <;> split <;> rfl

theorem lexList_map_ident (ps qs : List (List Char)) :
    lexList identCmp (ps.map identOf) (qs.map identOf) = lexList idCmp (ps.map sid) (qs.map sid) := by
  induction ps generalizing qs with
  | nil => cases qs <;> rfl
  | cons p ps ih =>
    cases qs with
    | nil => rfl
    | cons q qs => simp only [List.map, lexList, identCmp_identOf, ih]

/-- §11.3 in the code: a version without pre-release carries the single identifier `Max`, which
is above every identifier; the key carries the flag `1` against `0`. -/
theorem pre_refines (a b : Raw) :
    lexList identCmp (precedenceKey a).pre (precedenceKey b).pre =
      preCmp (key a).2.2.2.1 (key b).2.2.2.1 := by
  cases a with | mk _ _ _ pa _ => ?_
  cases b with | mk _ _ _ pb _ => ?_
  cases pa with
  | nil =>
    cases pb with
    | nil => rfl
    | cons q qs =>
      show (identCmp .max (identOf q)).then _ = .gt
      unfold identOf; split <;> rfl
  | cons p ps =>
    cases pb with
    | nil =>
      show (identCmp (identOf p) .max).then _ = .lt
      unfold identOf; split <;> rfl
    | cons q qs => exact lexList_map_ident (p :: ps) (q :: qs)

theorem keyOp_eq {o : Op} {P : Ordering → Bool} (h : OpOK o P) (a b : Raw) :
    keyOp o (precedenceKey a) (precedenceKey b) = P (keyCmp (key a) (key b)) :=
  have ideq x y : Ident.eq x y = (identCmp x y == .eq) := (Ident.ops_eq x y).1
  position_eq (nat_beq_eq_compare _ _) (fun _ => h.nat _ _) <|
  position_eq (nat_beq_eq_compare _ _) (fun _ => h.nat _ _) <|
  position_eq (nat_beq_eq_compare _ _) (fun _ => h.nat _ _) <|
  position_eq
    ((tupleEq_eq_lexList ideq _ _).trans (by rw [pre_refines]))
    (fun _ => (tupleOp_eq_lexList h.nat ideq h.ident _ _).trans (by rw [pre_refines]))
    (tupleOp_eq_lexList h.nat str_beq_iff h.str _ _)

theorem valOps_order (a b : Raw) :
    valOps.lt a b = (keyCmp (key a) (key b) == .lt) ∧ valOps.gt a b = (keyCmp (key a) (key b) == .gt) ∧
    valOps.le a b = (keyCmp (key a) (key b) != .gt) ∧ valOps.ge a b = (keyCmp (key a) (key b) != .lt) :=
  ⟨keyOp_eq opLt_ok a b, keyOp_eq opGt_ok a b, keyOp_eq opLe_ok a b, keyOp_eq opGe_ok a b⟩

/-- REFINEMENT (C01/C03): the comparison the code computes is the SemVer §11 key order with
the build tie-break, for all values. -/
theorem vercmp_eq_key (a b : Raw) : vercmp a b = keyCmp (key a) (key b) := by
  obtain ⟨h1, h2, -, -⟩ := valOps_order a b
  rw [vercmp, h1, h2]
  cases keyCmp (key a) (key b) <;> rfl

instance : TransCmp vercmp := by
  have : vercmp = cmpOn key keyCmp := by funext a b; exact vercmp_eq_key a b
  rw [this]; infer_instance

theorem natStr_lt_ten {d : Nat} (h : d < 10) : natStr d = [d.digitChar] :=
  Nat.toDigits_of_lt_base h

theorem isDigitStr_iff (s : List Char) :
    isDigitStr s = true ↔ s ≠ [] ∧ ∀ c ∈ s, c.isDigit = true := by
  cases s <;> simp [isDigitStr]

theorem natStr_parseNat (s : List Char) (hd : isDigitStr s = true) (hz : hasLeadingZero s = false) :
    natStr (parseNat s) = s := by
  obtain ⟨hne, hall⟩ := (isDigitStr_iff s).mp hd
  refine toDigits_ofDigitChars s hne hall fun h0 => ?_
  simpa [hasLeadingZero, hd, h0, hne] using hz

theorem natStr_digits (n : Nat) : ∀ c ∈ natStr n, c.isDigit = true := toDigits_isDigit n

theorem natStr_ne_nil (n : Nat) : natStr n ≠ [] := Nat.toDigits_ne_nil

theorem parseNat_natStr (n : Nat) : parseNat (natStr n) = n := Nat.ofDigitChars_ten_toDigits

theorem isDigitStr_natStr (n : Nat) : isDigitStr (natStr n) = true :=
  (isDigitStr_iff _).mpr ⟨natStr_ne_nil n, natStr_digits n⟩

theorem natStr_head_zero (n : Nat) : (natStr n).head? = some '0' → n = 0 :=
  toDigits_head_zero n

theorem natStr_noLeadingZero (n : Nat) : hasLeadingZero (natStr n) = false := by
  by_cases h : (natStr n).head? = some '0'
  · rw [natStr_head_zero n h]; rfl
  · simp [hasLeadingZero, h]

theorem stripZeros_natStr (n : Nat) : stripZeros (natStr n) = natStr n := by
  by_cases h : (natStr n).head? = some '0'
  · rw [natStr_head_zero n h]; rfl
  · simp [stripZeros, List.dropWhile_beq_eq_self_of_head?_ne h, natStr_ne_nil]

/-- no numeric pre-release identifier has a leading zero (`_validate_identifiers`) -/
def PreCanon (r : Raw) : Prop := ∀ p ∈ r.pre, hasLeadingZero p = false

instance (r : Raw) : Decidable (PreCanon r) := by unfold PreCanon; infer_instance

def SId.text : SId → List Char
  | .num n => natStr n
  | .alnum s => s

theorem text_sid (p : List Char) (h : hasLeadingZero p = false) : (sid p).text = p := by
  unfold sid
  split
  · exact natStr_parseNat p ‹_› h
  · rfl

theorem idCmp_eq_iff (x y : SId) : idCmp x y = .eq ↔ x = y := by
  cases x <;> cases y
  case num.num a b => exact Nat.compare_eq_eq.trans ⟨congrArg _, SId.num.inj⟩
  case alnum.alnum a b => exact (strCmp_eq_iff a b).trans ⟨congrArg _, SId.alnum.inj⟩
  all_goals exact ⟨nofun, nofun⟩

theorem map_sid_inj (ps qs : List (List Char)) (hp : ∀ p ∈ ps, hasLeadingZero p = false)
    (hq : ∀ q ∈ qs, hasLeadingZero q = false) (h : ps.map sid = qs.map sid) : ps = qs := by
  have back : ∀ l : List (List Char), (∀ p ∈ l, hasLeadingZero p = false) →
      (l.map sid).map SId.text = l := fun l hl => by
    rw [List.map_map]
    exact (List.map_congr_left fun p hp => text_sid p (hl p hp)).trans (List.map_id l)
  rw [← back ps hp, h, back qs hq]

theorem valOps_eq_decide (a b : Raw) : valOps.eq a b = decide (a = b) := by
  cases a; cases b
  rw [Bool.eq_iff_iff]
  simp only [valOps, Bool.and_eq_true, beq_iff_eq, decide_eq_true_eq, Raw.mk.injEq, and_assoc]

theorem keyCmp_self (k : Key) : keyCmp k k = .eq := ReflCmp.compare_self

theorem eq_of_keyCmp_eq (a b : Raw) (ha : PreCanon a) (hb : PreCanon b)
    (h : keyCmp (key a) (key b) = .eq) : a = b := by
  obtain ⟨ma, mi, pa, pra, ba⟩ := a
  obtain ⟨mb, mib, pb, prb, bb⟩ := b
  simp only [keyCmp, key, lexPair, preCmp, buildCmp, natCmp, Ordering.then_eq_eq, Nat.compare_eq_eq,
    lexList_eq_iff idCmp_eq_iff, lexList_eq_iff (lexList_eq_iff charCmp_eq_iff)] at h
  obtain ⟨rfl, rfl, rfl, ⟨h4, h5⟩, rfl⟩ := h
  have : pra = prb := by
    cases pra <;> cases prb
    · rfl
    · cases h4
    · cases h4
    · exact map_sid_inj _ _ ha hb h5
  rw [this]

/-- C02 for the four order operators, on ALL values -/
theorem verOps_order_lawful (a b : Raw) :
    verOps.lt a b = (vercmp a b == .lt) ∧ verOps.gt a b = (vercmp a b == .gt) ∧
    verOps.le a b = (vercmp a b != .gt) ∧ verOps.ge a b = (vercmp a b != .lt) := by
  obtain ⟨h1, h2, h3, h4⟩ := valOps_order a b
  simp only [verOps, Py.attrsOps, valOps_eq_decide, vercmp_eq_key, h1, h2, h3, h4]
  by_cases h : a = b
  · subst h; rw [keyCmp_self, decide_eq_true rfl]; exact ⟨rfl, rfl, rfl, rfl⟩
  · rw [decide_eq_false h]; exact ⟨rfl, rfl, rfl, rfl⟩

/-- C02 for `==` / `!=`: `==` compares the fields as text, the key compares numeric pre-release
identifiers as numbers, so the two agree when no such identifier has a leading zero -/
theorem verOps_eq_lawful (a b : Raw) (ha : PreCanon a) (hb : PreCanon b) :
    verOps.eq a b = (vercmp a b == .eq) ∧ verOps.ne a b = (vercmp a b != .eq) := by
  have h : verOps.eq a b = (vercmp a b == .eq) := by
    rw [vercmp_eq_key, Bool.eq_iff_iff, beq_iff_eq, show verOps.eq a b = _ from valOps_eq_decide a b,
      decide_eq_true_iff]
    exact ⟨fun h => h ▸ keyCmp_self _, eq_of_keyCmp_eq a b ha hb⟩
  exact ⟨h, congrArg (!·) h⟩

def CanonRaw : Type := { r : Raw // PreCanon r }

def verOpsCanon : VOps CanonRaw where
  lt a b := verOps.lt a.1 b.1
  le a b := verOps.le a.1 b.1
  gt a b := verOps.gt a.1 b.1
  ge a b := verOps.ge a.1 b.1
  eq a b := verOps.eq a.1 b.1
  ne a b := verOps.ne a.1 b.1

/-- C02: on the values the constructors can produce (`construct_preCanon`) the six operators
of `SemverVersion` are the ones induced by `vercmp`. -/
theorem verOps_lawful_partial : Lawful verOpsCanon (fun a b => vercmp a.1 b.1) where
  lt a b := (verOps_order_lawful a.1 b.1).1
  gt a b := (verOps_order_lawful a.1 b.1).2.1
  le a b := (verOps_order_lawful a.1 b.1).2.2.1
  ge a b := (verOps_order_lawful a.1 b.1).2.2.2
  eq a b := (verOps_eq_lawful a.1 b.1 a.2 b.2).1
  ne a b := (verOps_eq_lawful a.1 b.1 a.2 b.2).2

example : PreCanon ⟨1, 2, 3, ["rc".toList, "1".toList], []⟩ := by decide +kernel

/-- NOT a defect of the code: a `Raw` that no constructor produces (`_validate_identifiers`
rejects `01`) shows why `verOps_lawful_partial` needs `PreCanon`: `1.0.0-01` and `1.0.0-1`
would have the same precedence key and differ structurally. -/
theorem verOps_lawful_counterexample :
    vercmp ⟨1, 0, 0, [['0', '1']], []⟩ ⟨1, 0, 0, [['1']], []⟩ = .eq ∧
    verOps.eq ⟨1, 0, 0, [['0', '1']], []⟩ ⟨1, 0, 0, [['1']], []⟩ = false := by decide +kernel

/-- C12: equal versions have equal hash keys (all values) -/
theorem eq_imp_hash (a b : Raw) : verOps.eq a b = true → hashKey a = hashKey b := by
  intro h
  rw [of_decide_eq_true ((valOps_eq_decide a b).symm.trans h)]

/-! ### C18: `semantic_version.Version.next_patch/next_minor/next_major` bracket their version -/

theorem natCmp_self (a : Nat) : natCmp a a = .eq := Nat.compare_eq_eq.mpr rfl
theorem natCmp_succ (a : Nat) : natCmp a (a + 1) = .lt := Nat.compare_eq_lt.mpr (Nat.lt_succ_self a)

theorem keyCmp_release (a b c a' b' c' : Nat) :
    keyCmp (key ⟨a, b, c, [], []⟩) (key ⟨a', b', c', [], []⟩) =
      (natCmp a a').then ((natCmp b b').then (natCmp c c')) := by
  simp [key, keyCmp, lexPair, preCmp, buildCmp, lexList]

theorem semver_successors (v : Raw) :
    vercmp v (nextPatch v) = .lt ∧ vercmp (nextPatch v) (nextMinor v) ≠ .gt ∧
    vercmp (nextMinor v) (nextMajor v) ≠ .gt := by
  simp only [vercmp_eq_key]
  obtain ⟨ma, mi, pa, pre, bu⟩ := v
  cases pre with
  | nil =>
    -- `(ma, mi, pa) < (ma, mi, pa + 1) < (ma, mi + 1, 0) < (ma + 1, 0, 0)`
    simp [nextPatch, nextMinor, nextMajor, natCmp_succ, key, keyCmp, lexPair, preCmp, lexList]
  | cons p ps =>
    -- a pre-release is below its release `(ma, mi, pa)`: the flag `0` against `1` decides;
    -- with `pa = 0` the next minor is that release again, with `mi = 0` too so is the next major
    have h1 : keyCmp (key ⟨ma, mi, pa, p :: ps, bu⟩) (key ⟨ma, mi, pa, [], []⟩) = .lt := by
      simp [key, keyCmp, lexPair, preCmp, show natCmp 0 1 = .lt from rfl]
    cases pa with
    | zero => cases mi <;> simp [nextPatch, nextMinor, nextMajor, keyCmp_release, natCmp_succ, h1]
    | succ n => simp [nextPatch, nextMinor, nextMajor, keyCmp_release, natCmp_succ, h1]

theorem lt_nextMinor (v : Raw) : vercmp v (nextMinor v) = .lt :=
  TransCmp.lt_of_lt_of_isLE (semver_successors v).1 (Ordering.isLE_iff_ne_gt.mpr (semver_successors v).2.1)

theorem lt_nextMajor (v : Raw) : vercmp v (nextMajor v) = .lt :=
  TransCmp.lt_of_lt_of_isLE (lt_nextMinor v) (Ordering.isLE_iff_ne_gt.mpr (semver_successors v).2.2)

/-! ### C11: printing round-trips -/

theorem takeWhile_run {p : Char → Bool} (d r : List Char) (hd : ∀ c ∈ d, p c = true)
    (hr : ∀ c ∈ r.head?, p c = false) :
    (d ++ r).takeWhile p = d ∧ (d ++ r).dropWhile p = r := by
  rw [List.takeWhile_append_of_pos hd, List.dropWhile_append_of_pos hd]
  cases r with
  | nil => simp
  | cons c cs => simp [hr c rfl]

def NoDigitHead (r : List Char) : Prop := ∀ c ∈ r.head?, c.isDigit = false

theorem takeWhile_digits (d r : List Char) (hd : ∀ c ∈ d, c.isDigit = true) (hr : NoDigitHead r) :
    (d ++ r).takeWhile Char.isDigit = d ∧ (d ++ r).dropWhile Char.isDigit = r :=
  takeWhile_run d r hd hr

theorem noDigitHead_dot (t : List Char) : NoDigitHead ('.' :: t) := by
  intro c hc; cases hc; rfl

/-- the blanks of `str.split()` are all below `!`, the characters of `[0-9a-zA-Z.-]` from `-` on -/
theorem identChar_not_space {c : Char} (h : isIdentChar c = true) : isPySpace c = false := by
  have hge : 45 ≤ c.toNat := by
    simp only [isIdentChar, Bool.or_eq_true, beq_iff_eq] at h
    rcases h with (h | rfl) | rfl
    · simp [Char.isAlphanum, Char.isAlpha, Char.isUpper, Char.isLower, Char.isDigit,
        UInt32.le_iff_toNat_le, Char.toNat_val] at h
      omega
    · decide
    · decide
  have : c ≠ ' ' := fun e => by subst e; exact absurd hge (by decide)
  simp [isPySpace, this]
  omega

theorem identChar_ne_plus {c : Char} (h : isIdentChar c = true) : c ≠ '+' :=
  fun e => absurd (e ▸ h) (by decide)

theorem identChar_clean {c : Char} (h : isIdentChar c = true) : cleanChar c = c := by
  simp only [isIdentChar, Bool.or_eq_true] at h
  refine if_pos ?_
  simp only [Bool.or_eq_true]
  rcases h with (h | h) | h
  · exact .inl (.inl (.inl h))
  · exact .inl (.inr h)
  · exact .inr h

theorem digit_identChar {c : Char} (h : c.isDigit = true) : isIdentChar c = true := by
  simp [isIdentChar, Char.isAlphanum, h]

theorem natStr_not_space (n : Nat) : ∀ c ∈ natStr n, isPySpace c = false :=
  fun c hc => identChar_not_space (digit_identChar (natStr_digits n c hc))

theorem splitOn_eq (sep : Char) (s : List Char) : splitOn sep s = splitChar sep s := by
  induction s with
  | nil => rfl
  | cons c cs ih =>
    simp only [splitOn, splitChar, ih, beq_iff_eq]
    cases splitChar sep cs <;> rfl

theorem joinWith_eq (sep : Char) : ∀ ids, joinWith sep ids = join [sep] ids
  | [] => rfl
  | [_] => rfl
  | x :: y :: ys => by rw [joinWith, join, joinWith_eq sep (y :: ys), List.append_assoc]; rfl

theorem splitOn_no_sep (sep : Char) (p : List Char) (h : sep ∉ p) : splitOn sep p = [p] :=
  (splitOn_eq sep p).trans (Text.Str.splitChar_of_not_mem h)

theorem mem_splitOn (sep : Char) (g p : List Char) (hp : p ∈ splitOn sep g) (c : Char) (hc : c ∈ p) :
    c ∈ g ∧ c ≠ sep := by
  rw [splitOn_eq] at hp
  exact Text.Str.mem_of_mem_splitChar hp hc

/-- the identifier alphabet `[0-9A-Za-z-]` of SemVer §9/§10 -/
def isIdChar (c : Char) : Bool := c.isAlphanum || c == '-'

def identOK (allowLeadingZero : Bool) (p : List Char) : Bool :=
  !p.isEmpty && p.all isIdChar && (allowLeadingZero || !hasLeadingZero p)

/-- the values `parse` can return: SemVer-valid pre-release and build identifiers -/
def WellFormed (r : Raw) : Prop :=
  (∀ p ∈ r.pre, identOK false p = true) ∧ (∀ p ∈ r.build, identOK true p = true)

instance (r : Raw) : Decidable (WellFormed r) := by unfold WellFormed; infer_instance

theorem identOK_elim {allow : Bool} {p : List Char} (h : identOK allow p = true) :
    p ≠ [] ∧ (∀ c ∈ p, isIdChar c = true) ∧ (allow = true ∨ hasLeadingZero p = false) := by
  simp only [identOK, Bool.and_eq_true, Bool.not_eq_true', List.all_eq_true, Bool.or_eq_true,
    List.isEmpty_eq_false_iff] at h
  exact ⟨h.1.1, h.1.2, h.2⟩

theorem WellFormed.preCanon {r : Raw} (h : WellFormed r) : PreCanon r :=
  fun p hp => (identOK_elim (h.1 p hp)).2.2.resolve_left nofun

theorem idChar_iff {c : Char} : isIdChar c = true ↔ isIdentChar c = true ∧ c ≠ '.' := by
  by_cases hd : c = '.'
  · subst hd; decide
  · simp [isIdChar, isIdentChar, hd]

/-- the test `_validate_identifiers` makes on one identifier -/
theorem validateItem_eq (allow : Bool) (p : List Char) :
    (!p.isEmpty && !(p.head? == some '0' && isDigitStr p && p != ['0'] && !allow)) =
      (!p.isEmpty && (allow || !hasLeadingZero p)) := by
  cases p <;> cases allow <;> simp [hasLeadingZero]

theorem identOK_iff (allow : Bool) (ids : List (List Char)) :
    (∀ p ∈ ids, identOK allow p = true) ↔
      validateIdentifiers ids allow = true ∧ ∀ p ∈ ids, ∀ c ∈ p, isIdChar c = true := by
  simp only [validateIdentifiers, validateItem_eq, List.all_eq_true, ← forall_and]
  refine forall_congr' fun p => forall_congr' fun _ => ?_
  simp only [identOK, Bool.and_eq_true, List.all_eq_true]
  exact ⟨fun h => ⟨⟨h.1.1, h.2⟩, h.1.2⟩, fun h => ⟨⟨h.1.1, h.2⟩, h.1.2⟩⟩

/-- a group that took part in the match is a non-empty run of `[0-9a-zA-Z.-]` -/
def GroupOK (g : Option (List Char)) : Prop :=
  ∀ x, g = some x → x ≠ [] ∧ ∀ c ∈ x, isIdentChar c = true

def optTail (lead : Char) : Option (List Char) → List Char
  | none => []
  | some x => lead :: x

theorem optTail_none (lead : Char) : optTail lead none = [] := rfl
theorem optTail_some (lead : Char) (x : List Char) : optTail lead (some x) = lead :: x := rfl

theorem optGroup_optTail (lead : Char) {g : Option (List Char)} (hg : GroupOK g) (rest : List Char)
    (hr : ∀ c ∈ rest.head?, isIdentChar c = false ∧ c ≠ lead) :
    optGroup lead (optTail lead g ++ rest) = (g, rest) := by
  cases g with
  | none =>
    show optGroup lead rest = (none, rest)
    cases rest with
    | nil => rfl
    | cons c t =>
      have : (c == lead) = false := beq_eq_false_iff_ne.mpr (hr c rfl).2
      simp only [optGroup, this, Bool.false_and, Bool.false_eq_true, if_false]
  | some x =>
    obtain ⟨hx, hxc⟩ := hg x rfl
    obtain ⟨h1, h2⟩ := takeWhile_run x rest hxc fun c hc => (hr c hc).1
    show optGroup lead (lead :: (x ++ rest)) = (some x, rest)
    simp only [optGroup, h1, h2, beq_self_eq_true, Bool.true_and, List.isEmpty_eq_false_iff.mpr hx,
      Bool.not_false, if_true]

def joined (ids : List (List Char)) : Option (List Char) :=
  if ids.isEmpty then none else some (joinWith '.' ids)

theorem groupOK_joined {allow : Bool} {ids : List (List Char)}
    (h : ∀ p ∈ ids, identOK allow p = true) : GroupOK (joined ids) := by
  cases ids with
  | nil => nofun
  | cons i is =>
    intro x hx
    cases hx
    obtain ⟨c, cs, rfl⟩ := List.exists_cons_of_ne_nil (identOK_elim (h i List.mem_cons_self)).1
    obtain ⟨rest, e⟩ := Text.Str.join_cons_cons ['.'] c cs is
    rw [joinWith_eq]
    refine ⟨e ▸ nofun, fun x hx => ?_⟩
    rcases Text.Str.mem_join hx with hx | ⟨p, hp, hx⟩
    · rw [List.mem_singleton.mp hx]; rfl
    · exact (idChar_iff.mp ((identOK_elim (h p hp)).2.1 x hx)).1

theorem groupIdents_some (g : List Char) (h : g ≠ []) : groupIdents (some g) = splitOn '.' g := by
  cases g with
  | nil => exact absurd rfl h
  | cons _ _ => rfl

theorem groupIdents_joined {allow : Bool} {ids : List (List Char)}
    (h : ∀ p ∈ ids, identOK allow p = true) : groupIdents (joined ids) = ids := by
  cases ids with
  | nil => rfl
  | cons i is =>
    rw [show joined (i :: is) = some (joinWith '.' (i :: is)) from rfl,
      groupIdents_some _ (groupOK_joined h _ rfl).1, splitOn_eq, joinWith_eq]
    exact Text.Str.splitChar_join nofun fun p hp hd =>
      (idChar_iff.mp ((identOK_elim (h p hp)).2.1 '.' hd)).2 rfl

def coreStr (a b c : Nat) : List Char := natStr a ++ '.' :: (natStr b ++ '.' :: natStr c)

def render (a b c : Nat) (P B : Option (List Char)) : List Char :=
  coreStr a b c ++ (optTail '-' P ++ optTail '+' B)

theorem render_eq (a b c : Nat) (P B : Option (List Char)) :
    render a b c P B =
      natStr a ++ '.' :: (natStr b ++ '.' :: (natStr c ++ (optTail '-' P ++ optTail '+' B))) := by
  simp only [render, coreStr, List.append_assoc, List.cons_append]

theorem str_eq (r : Raw) :
    str r = render r.major r.minor r.patch (joined r.pre) (joined r.build) := by
  unfold str joined
  rw [render_eq]
  cases r.pre.isEmpty <;> cases r.build.isEmpty <;> simp [optTail, List.append_assoc]

theorem noDigitHead_tails (P B : Option (List Char)) :
    NoDigitHead (optTail '-' P ++ optTail '+' B) := by
  cases P <;> cases B <;> intro c hc <;> cases hc <;> rfl

theorem isEmpty_natStr (n : Nat) : (natStr n).isEmpty = false :=
  List.isEmpty_eq_false_iff.mpr (natStr_ne_nil n)

theorem scan_dot (n : Nat) (t : List Char) :
    (natStr n ++ '.' :: t).takeWhile Char.isDigit = natStr n ∧
      (natStr n ++ '.' :: t).dropWhile Char.isDigit = '.' :: t :=
  takeWhile_digits _ _ (natStr_digits n) (noDigitHead_dot t)

theorem matchBase_render (a b c : Nat) (P B : Option (List Char)) :
    matchBase (render a b c P B) =
      some ([natStr a, natStr b, natStr c], optTail '-' P ++ optTail '+' B) := by
  obtain ⟨c1, c2⟩ := takeWhile_digits _ _ (natStr_digits c) (noDigitHead_tails P B)
  simp only [render_eq, matchBase, (scan_dot _ _).1, (scan_dot _ _).2, c1, c2, isEmpty_natStr]
  rfl

theorem matchVersionRe_render (a b c : Nat) {P B : Option (List Char)} (hP : GroupOK P)
    (hB : GroupOK B) :
    matchVersionRe (render a b c P B) = some (natStr a, natStr b, natStr c, P, B) := by
  obtain ⟨c1, c2⟩ := takeWhile_digits _ _ (natStr_digits c) (noDigitHead_tails P B)
  have g4 : optGroup '-' (optTail '-' P ++ optTail '+' B) = (P, optTail '+' B) :=
    optGroup_optTail '-' hP _ (by cases B <;> intro c hc <;> cases hc; exact ⟨rfl, by decide⟩)
  have g5 := optGroup_optTail '+' hB [] nofun
  rw [List.append_nil] at g5
  simp only [render_eq, matchVersionRe, (scan_dot _ _).1, (scan_dot _ _).2, c1, c2, isEmpty_natStr,
    g4, g5]
  rfl

theorem render_ne_nil (a b c : Nat) (P B : Option (List Char)) :
    (render a b c P B).isEmpty = false := by
  rw [render_eq]
  exact List.isEmpty_eq_false_iff.mpr (List.append_ne_nil_of_left_ne_nil (natStr_ne_nil a) _)

theorem parse_str (r : Raw) (h : WellFormed r) : parse (str r) = some r := by
  -- one fact for each question `parse` asks, in its order: the text is not empty, the pattern gives
  -- the five groups of `render`, no number has a leading zero, each identifier group splits back
  -- into the list it was joined from and that list is valid, the numbers read back
  simp only [str_eq, parse, render_ne_nil,
    matchVersionRe_render _ _ _ (groupOK_joined h.1) (groupOK_joined h.2), natStr_noLeadingZero,
    groupIdents_joined h.1, ((identOK_iff _ _).mp h.1).1, groupIdents_joined h.2,
    ((identOK_iff _ _).mp h.2).1, parseNat_natStr]
  rfl

theorem cleanChar_plus : cleanChar '+' = '+' := rfl
theorem cleanChar_minus : cleanChar '-' = '-' := rfl

theorem map_clean_ident (l : List Char) (h : ∀ c ∈ l, isIdentChar c = true) :
    l.map cleanChar = l :=
  (List.map_congr_left fun c hc => identChar_clean (h c hc)).trans (List.map_id l)

theorem map_replace_ident (l : List Char) (h : ∀ c ∈ l, isIdentChar c = true) :
    l.map (fun c => if c == '+' then '.' else c) = l :=
  (List.map_congr_left fun c hc => if_neg (by simpa using identChar_ne_plus (h c hc))).trans
    (List.map_id l)

theorem splitPlus_optTail (x : List Char) (hx : ∀ c ∈ x, isIdentChar c = true)
    (B : Option (List Char)) : splitPlus (x ++ optTail '+' B) = (x, B.getD []) := by
  have hpos : ∀ c ∈ x, (c != '+') = true := fun c hc => bne_iff_ne.mpr (identChar_ne_plus (hx c hc))
  cases B with
  | none =>
    have : x.contains '+' = false := by
      rw [List.contains_eq_mem]
      exact decide_eq_false fun hm => identChar_ne_plus (hx _ hm) rfl
    simp only [optTail, List.append_nil, splitPlus, this, Bool.false_eq_true, if_false, Option.getD]
  | some y =>
    have : (x ++ '+' :: y).contains '+' = true := by simp
    simp only [optTail, splitPlus, this, if_true, List.takeWhile_append_of_pos hpos,
      List.dropWhile_append_of_pos hpos]
    simp [List.takeWhile, List.dropWhile]

theorem coerceString_of_base {s : List Char} {comps : List (List Char)} {P B : Option (List Char)}
    (hb : matchBase s = some (comps, optTail '-' P ++ optTail '+' B)) (hP : GroupOK P)
    (hB : GroupOK B) :
    coerceString s = some (joinWith '.' ((padComponents comps).map stripZeros) ++
      (optTail '-' P ++ optTail '+' B)) := by
  obtain ⟨hBc, hBt, hBe⟩ : (∀ c ∈ B.getD [], isIdentChar c = true) ∧
      (optTail '+' B).map cleanChar = optTail '+' B ∧
      ∀ v : List Char, (if (B.getD []).isEmpty then v else v ++ '+' :: B.getD []) =
        v ++ optTail '+' B := by
    cases B with
    | none => exact ⟨nofun, rfl, fun v => (List.append_nil v).symm⟩
    | some y =>
      exact ⟨(hB y rfl).2, congrArg _ (map_clean_ident y (hB y rfl).2),
        fun v => if_neg (by simpa using (hB y rfl).1)⟩
  cases P with
  | none =>
    cases B with
    | none => simp only [coerceString, hb, optTail_none, List.append_nil, List.isEmpty_nil, if_true]
    | some y =>
      simp only [coerceString, hb, optTail_none, optTail_some, List.nil_append, List.isEmpty_cons,
        Bool.false_eq_true, if_false, List.map_cons, cleanChar_plus, map_clean_ident y hBc,
        map_replace_ident y hBc, List.isEmpty_nil, if_true]
      exact congrArg some (hBe _)
  | some x =>
    obtain ⟨hx, hxc⟩ := hP x rfl
    simp only [coerceString, hb, optTail_some, List.cons_append, List.isEmpty_cons,
      Bool.false_eq_true, if_false, List.map_cons, List.map_append, cleanChar_minus,
      map_clean_ident x hxc, hBt, splitPlus_optTail x hxc, map_replace_ident _ hBc,
      List.isEmpty_eq_false_iff.mpr hx]
    rw [hBe, List.append_assoc]
    rfl

theorem coreStr_eq (a b c : Nat) :
    joinWith '.' ((padComponents [natStr a, natStr b, natStr c]).map stripZeros) = coreStr a b c := by
  simp only [padComponents, List.map, stripZeros_natStr, joinWith, coreStr]

theorem coerceString_str (r : Raw) (h : WellFormed r) : coerceString (str r) = some (str r) := by
  rw [str_eq, coerceString_of_base (matchBase_render ..) (groupOK_joined h.1) (groupOK_joined h.2),
    coreStr_eq, render]

theorem coerce_str (r : Raw) (h : WellFormed r) : coerce (str r) = some r := by
  simp only [coerce, coerceString_str r h, parse_str r h]

theorem normalize_of (n : Nat) (t : List Char) (h : ∀ c ∈ natStr n ++ t, isPySpace c = false) :
    normalize (natStr n ++ t) = natStr n ++ t := by
  have hf : removeSpaces (natStr n ++ t) = natStr n ++ t :=
    List.filter_eq_self.mpr fun c hc => by rw [h c hc]; rfl
  rw [normalize, hf]
  obtain ⟨c, cs, e⟩ := List.exists_cons_of_ne_nil (natStr_ne_nil n)
  obtain ⟨d, hd, rfl⟩ := digit_eq_digitChar (natStr_digits n c (e ▸ List.mem_cons_self))
  rw [e]
  exact List.dropWhile_cons_of_neg (by simp [Nat.digitChar_ne])

theorem normalize_str (r : Raw) (h : WellFormed r) : normalize (str r) = str r := by
  have ht : ∀ lead g, isPySpace lead = false → GroupOK g →
      ∀ x ∈ optTail lead g, isPySpace x = false := by
    intro lead g hl hg x hx
    cases g with
    | none => cases hx
    | some y =>
      rcases List.mem_cons.mp hx with rfl | hx
      · exact hl
      · exact identChar_not_space ((hg y rfl).2 x hx)
  rw [str_eq, render_eq]
  apply normalize_of
  simp only [List.forall_mem_append, List.forall_mem_cons]
  exact ⟨natStr_not_space _, rfl, natStr_not_space _, rfl, natStr_not_space _,
    ht _ _ rfl (groupOK_joined h.1), ht _ _ rfl (groupOK_joined h.2)⟩

theorem constructWith_eq_ok {again : Bool} {s : List Char} {r : Raw} :
    constructWith again s = .ok r ↔ buildValue again (normalize s) = some r := by
  unfold constructWith isValid
  cases h : buildValue again (normalize s) <;> simp [h]

theorem constructWith_error {again : Bool} {s : List Char} {e : PErr}
    (h : constructWith again s = .error e) : e = .invalid := by
  unfold constructWith isValid at h
  cases hb : buildValue again (normalize s) <;> simp [hb] at h
  exact h.symm

/-- C11: `SemverVersion(str(v)).value == v` for every SemVer-valid value (all four classes,
by `constructGolang_eq`, `constructComposer_eq`, `constructNginx_eq`). -/
theorem str_roundtrip (r : Raw) (h : WellFormed r) : construct (str r) = .ok r :=
  constructWith_eq_ok.mpr (by rw [normalize_str r h]; exact coerce_str r h)

/-- build identifiers may have leading zeros -/
example : WellFormed ⟨1, 2, 3, ["rc".toList, "1".toList], ["001".toList]⟩ := by decide +kernel

theorem optGroup_ok (lead : Char) (s : List Char) : GroupOK (optGroup lead s).1 := by
  intro x hx
  unfold optGroup at hx
  split at hx
  · split at hx
    · rename_i h
      rw [Bool.and_eq_true, Bool.not_eq_true', List.isEmpty_eq_false_iff] at h
      cases hx
      exact ⟨h.2, fun c hc => List.all_eq_true.mp List.all_takeWhile c hc⟩
    · cases hx
  · cases hx

theorem matchVersionRe_groups {s ma mi pa : List Char} {g4 g5 : Option (List Char)}
    (h : matchVersionRe s = some (ma, mi, pa, g4, g5)) : GroupOK g4 ∧ GroupOK g5 := by
  unfold matchVersionRe at h
  split at h
  · split at h
    · simp only [Option.ite_none_left_eq_some, Option.ite_none_right_eq_some, Option.some.injEq,
        Prod.mk.injEq] at h
      obtain ⟨_, _, _, _, _, h4, h5⟩ := h
      exact ⟨h4 ▸ optGroup_ok _ _, h5 ▸ optGroup_ok _ _⟩
    · cases h
  · cases h

theorem groupIdents_chars {g : Option (List Char)} (hg : GroupOK g) :
    ∀ p ∈ groupIdents g, ∀ c ∈ p, isIdChar c = true := by
  intro p hp c hc
  match g, hg, hp with
  | some (y :: ys), hg, hp =>
    have := mem_splitOn '.' (y :: ys) p hp c hc
    exact idChar_iff.mpr ⟨(hg _ rfl).2 c this.1, this.2⟩

theorem parse_eq_some {s : List Char} {r : Raw} (h : parse s = some r) :
    ∃ ma mi pa g4 g5, matchVersionRe s = some (ma, mi, pa, g4, g5) ∧
      validateIdentifiers (groupIdents g4) false = true ∧
      validateIdentifiers (groupIdents g5) true = true ∧
      r.pre = groupIdents g4 ∧ r.build = groupIdents g5 := by
  unfold parse at h
  cases hm : matchVersionRe s with
  | none => simp [hm] at h
  | some t =>
    obtain ⟨ma, mi, pa, g4, g5⟩ := t
    simp only [hm, Option.ite_none_left_eq_some, Bool.not_eq_true', Bool.not_eq_false,
      Option.some.injEq] at h
    obtain ⟨_, _, _, _, h4, h5, rfl⟩ := h
    exact ⟨ma, mi, pa, g4, g5, rfl, h4, h5, rfl, rfl⟩

theorem parse_wellFormed (s : List Char) (r : Raw) (h : parse s = some r) : WellFormed r := by
  obtain ⟨ma, mi, pa, g4, g5, hm, h4, h5, e4, e5⟩ := parse_eq_some h
  obtain ⟨c4, c5⟩ := matchVersionRe_groups hm
  exact ⟨e4 ▸ (identOK_iff ..).mpr ⟨h4, groupIdents_chars c4⟩,
    e5 ▸ (identOK_iff ..).mpr ⟨h5, groupIdents_chars c5⟩⟩

theorem constructWith_wellFormed (again : Bool) (s : List Char) (r : Raw)
    (h : constructWith again s = .ok r) : WellFormed r := by
  have hv := constructWith_eq_ok.mp h
  unfold buildValue coerce at hv
  split at hv
  · cases hv
  · exact parse_wellFormed _ _ hv

theorem construct_preCanon (s : List Char) (r : Raw) (h : construct s = .ok r) : PreCanon r :=
  (constructWith_wellFormed false s r h).preCanon

/-- C11: every value a constructor returns is well-formed, hence prints to a string that
constructs the same value. -/
theorem construct_roundtrip (s : List Char) (r : Raw) (h : construct s = .ok r) :
    construct (str r) = .ok r :=
  str_roundtrip r (constructWith_wellFormed false s r h)

/-- the second `lstrip("vV")` of `GolangVersion`/`ComposerVersion.build_value` never removes
anything: the four classes construct the same values. -/
theorem constructWith_true_eq (s : List Char) : constructWith true s = constructWith false s := by
  have h : lstripV (normalize s) = normalize s := Text.Str.dropWhile_idem _ _
  simp only [constructWith, isValid, buildValue, if_true, h]
  rfl

theorem constructGolang_eq : constructGolang = construct := funext constructWith_true_eq
theorem constructComposer_eq : constructComposer = construct := funext constructWith_true_eq
theorem constructNginx_eq : constructNginx = construct := rfl

end Univers.Semver
