/-
Theorems about the NuGet model: refinement of the spec key, operator laws, eq/hash, the two case
foldings, `str` round trip.
-/
import Univers.Scheme.NugetSpec
import Univers.Py.AttrsThm
import Univers.Basic.Digits
import Univers.Basic.PadLexEq
import Univers.Text.Str

namespace Univers.Nuget

open Std Univers

/-! The character classes and the two case foldings are intervals and shifts of code points: the
facts about them below are linear arithmetic on `Char.toNat`. -/

theorem char_le_iff (c d : Char) : c ≤ d ↔ c.toNat ≤ d.toNat := by
  rw [Char.le_def, UInt32.le_iff_toNat_le]; rfl

theorem toNat_ofNat_of_lt (n : Nat) (h : n < 55296) : (Char.ofNat n).toNat = n := by
  unfold Char.ofNat
  rw [dif_pos (Or.inl h)]
  exact UInt32.toNat_ofNatLT ..

theorem compare_congr {a b a' b' : Nat} (h1 : a < b ↔ a' < b') (h2 : b < a ↔ b' < a') :
    compare a b = compare a' b' := by
  simp only [Nat.compare_eq_ite_lt, h1, h2]

theorem isDigit_iff (c : Char) : isDigit c = true ↔ 48 ≤ c.toNat ∧ c.toNat ≤ 57 := by
  simp only [isDigit, Bool.and_eq_true, decide_eq_true_eq, char_le_iff, Char.reduceToNat]

theorem isIdChar_iff (c : Char) : isIdChar c = true ↔
    ((48 ≤ c.toNat ∧ c.toNat ≤ 57) ∨ (97 ≤ c.toNat ∧ c.toNat ≤ 122) ∨ (65 ≤ c.toNat ∧ c.toNat ≤ 90)) ∨
      c.toNat = 45 := by
  simp only [isIdChar, isAlpha, Bool.or_eq_true, isDigit_iff, Bool.and_eq_true, decide_eq_true_eq,
    char_le_iff, beq_iff_eq, ← Char.toNat_inj, Char.reduceToNat, or_assoc]

theorem toNat_lowerChar (c : Char) :
    (65 ≤ c.toNat ∧ c.toNat ≤ 90 ∧ (lowerChar c).toNat = c.toNat + 32) ∨
    (¬(65 ≤ c.toNat ∧ c.toNat ≤ 90) ∧ (lowerChar c).toNat = c.toNat) := by
  simp only [lowerChar, Bool.and_eq_true, decide_eq_true_eq, char_le_iff, Char.reduceToNat]
  split
  · rename_i h; exact .inl ⟨h.1, h.2, toNat_ofNat_of_lt _ (by omega)⟩
  · rename_i h; exact .inr ⟨h, rfl⟩

theorem natVal_eq (s : List Char) : natVal s = Nat.ofDigitChars 10 s 0 := rfl

theorem natVal_natStr (n : Nat) : natVal (natStr n) = n := Nat.ofDigitChars_ten_toDigits

theorem isDigit_eq (c : Char) : isDigit c = c.isDigit :=
  Bool.eq_iff_iff.mpr ((isDigit_iff c).trans Char.isDigit_iff_toNat.symm)

/-- no leading zero: `0|[1-9]\d*` given that the string consists of digits -/
def canonNum (s : List Char) : Bool := s == ['0'] || s.head? != some '0'

theorem natStr_natVal (s : List Char) (hd : (!s.isEmpty && s.all isDigit) = true)
    (hc : canonNum s = true) : natStr (natVal s) = s := by
  rw [Bool.and_eq_true, Bool.not_eq_true', List.isEmpty_eq_false_iff, List.all_eq_true] at hd
  refine toDigits_ofDigitChars s hd.1 (fun c hc' => isDigit_eq c ▸ hd.2 c hc') fun h0 => ?_
  simpa [canonNum, h0] using hc

theorem natVal_inj {s t : List Char} (hs : (!s.isEmpty && s.all isDigit) = true)
    (ht : (!t.isEmpty && t.all isDigit) = true) (hcs : canonNum s = true) (hct : canonNum t = true)
    (h : natVal s = natVal t) : s = t := by
  rw [← natStr_natVal s hs hcs, ← natStr_natVal t ht hct, h]

theorem natStr_canon (k : Nat) : canonNum (natStr k) = true := by
  cases k with
  | zero => rfl
  | succ k =>
    rw [canonNum, Bool.or_eq_true, bne_iff_ne]
    exact .inr (toDigits_head_ne_zero _ (Nat.succ_pos k))

def wfIdent (s : List Char) : Bool :=
  (if !s.isEmpty && s.all isDigit then canonNum s else true) && lower s == s

/-- what `construct` establishes about the `prerelease` string (`construct_wf`) -/
def WFV (v : Ver) : Bool :=
  match v.pre with
  | none => true
  | some p => !p.isEmpty && (splitOn '.' p).all wfIdent

def WF : Raw → Bool
  | none => true
  | some v => WFV v

example : WF (some ⟨1, 2, 3, some "rc.1".toList, some "B".toList, 4⟩) = true := by decide

def wfPre : Option (List Char) → Bool
  | none => true
  | some p => !p.isEmpty && (splitOn '.' p).all wfIdent

theorem splitOn_eq (sep : Char) (s : List Char) : splitOn sep s = Text.Str.splitChar sep s := by
  induction s with
  | nil => rfl
  | cons c cs ih =>
    simp only [splitOn, Text.Str.splitChar, ih, beq_iff_eq]
    cases Text.Str.splitChar sep cs <;> rfl

/-- length of the dotted string, counting one separator after every part -/
def jlen : List (List Char) → Nat
  | [] => 0
  | p :: ps => p.length + 1 + jlen ps

theorem jlen_splitOn (sep : Char) (s : List Char) : jlen (splitOn sep s) = s.length + 1 := by
  rw [splitOn_eq]
  induction s with
  | nil => rfl
  | cons c cs ih =>
    obtain ⟨p, ps, h, hc⟩ := Text.Str.splitChar_cons sep c cs
    rw [h] at ih
    rw [hc]
    split <;> simp only [jlen, List.length_cons, List.length_nil] at ih ⊢ <;> omega

theorem tagCmp_eq_identCmp (a b : List Char) (ha : wfIdent a = true) (hb : wfIdent b = true) :
    tagCmp (convert a) (convert b) = identCmp (identOf a) (identOf b) := by
  simp only [wfIdent, Bool.and_eq_true, beq_iff_eq] at ha hb
  simp only [convert, identOf, ha.2, hb.2]
  split <;> split <;> rfl

theorem identOf_inj (a b : List Char) (ha : wfIdent a = true) (hb : wfIdent b = true)
    (h : identCmp (identOf a) (identOf b) = .eq) : a = b := by
  have ⟨ha1, ha2⟩ := Bool.and_eq_true_iff.1 ha
  have ⟨hb1, hb2⟩ := Bool.and_eq_true_iff.1 hb
  rw [identOf, identOf, eq_of_beq ha2, eq_of_beq hb2] at h
  split at h <;> split at h
  · rename_i h1 h2
    exact natVal_inj h1 h2 ((if_pos h1).symm.trans ha1) ((if_pos h2).symm.trans hb1)
      (Nat.compare_eq_eq.1 h)
  · cases h
  · cases h
  · exact lexList_eq_eq (fun _ _ => LawfulEqCmp.eq_of_compare) _ _ h

theorem lex_identOf_inj : ∀ (pa pb : List (List Char)),
    pa.all wfIdent = true → pb.all wfIdent = true →
    lexList identCmp (pa.map identOf) (pb.map identOf) = .eq → pa = pb
  | [], [], _, _, _ => rfl
  | [], _ :: _, _, _, h => nomatch h
  | _ :: _, [], _, _, h => nomatch h
  | a :: as, b :: bs, ha, hb, h => by
    simp only [List.all_cons, Bool.and_eq_true] at ha hb
    simp only [List.map_cons, lexList, Ordering.then_eq_eq] at h
    rw [identOf_inj a b ha.1 hb.1 h.1, lex_identOf_inj as bs ha.2 hb.2 h.2]

/-- `_nat_cmp`: the `zip` loop, then the lengths of the STRINGS.  Equal labels are the same string,
so they add the same length on both sides. -/
theorem zipCmp_then_len (pa pb : List (List Char))
    (ha : pa.all wfIdent = true) (hb : pb.all wfIdent = true) :
    (match zipCmp (pa.map convert) (pb.map convert) with
      | .eq => compare (jlen pa) (jlen pb)
      | r => r) = lexList identCmp (pa.map identOf) (pb.map identOf) := by
  induction pa generalizing pb with
  | nil =>
    cases pb with
    | nil => rfl
    | cons b bs => exact Nat.compare_eq_lt.2 (by simp only [jlen]; omega)
  | cons a as ih =>
    cases pb with
    | nil => exact Nat.compare_eq_gt.2 (by simp only [jlen]; omega)
    | cons b bs =>
      rw [List.all_cons, Bool.and_eq_true] at ha hb
      simp only [List.map_cons, zipCmp, lexList, tagCmp_eq_identCmp a b ha.1 hb.1]
      cases hc : identCmp (identOf a) (identOf b) with
      | lt => rfl
      | gt => rfl
      | eq =>
        cases identOf_inj a b ha.1 hb.1 hc
        rw [Ordering.eq_then, ← ih bs ha.2 hb.2,
          compare_congr (a' := jlen as) (b' := jlen bs) (by simp only [jlen]; omega)
            (by simp only [jlen]; omega)]

theorem natCmp_eq_lex (a b : List Char) (ha : (splitOn '.' a).all wfIdent = true)
    (hb : (splitOn '.' b).all wfIdent = true) :
    natCmp a b = lexList identCmp ((splitOn '.' a).map identOf) ((splitOn '.' b).map identOf) := by
  rw [← zipCmp_then_len _ _ ha hb, jlen_splitOn, jlen_splitOn,
    compare_congr (a' := a.length) (b' := b.length) (by omega) (by omega)]
  rfl

def prePart (p q : Option (List Char)) : Ordering :=
  let rccmp := natCmp (p.getD []) (q.getD [])
  if rccmp == .eq then .eq
  else if falsy p then .gt
  else if falsy q then .lt
  else rccmp

def c3 (x y : Ver) : Ordering :=
  (compare x.major y.major).then ((compare x.minor y.minor).then (compare x.patch y.patch))

theorem semverCompare_eq (x y : Ver) : semverCompare x y = (c3 x y).then (prePart x.pre y.pre) := by
  unfold semverCompare c3 prePart lexPair
  simp only []
  cases (compare x.major y.major).then ((compare x.minor y.minor).then (compare x.patch y.patch)) <;> rfl

theorem length_eq_of_natCmp_eq (a b : List Char) (h : natCmp a b = .eq) : a.length = b.length := by
  unfold natCmp at h
  split at h
  · exact Nat.compare_eq_eq.1 h
  · rename_i hr; exact absurd h hr

theorem ite_eq_self (r : Ordering) : (if r == .eq then .eq else r) = r := by
  cases r <;> rfl

/-- a present pre-release against an absent one: `_nat_cmp` sees different lengths, then the
falsy side is the greater -/
theorem prePart_eq_key (p q : Option (List Char)) (hp : wfPre p = true) (hq : wfPre q = true) :
    prePart p q = optTop (lexList identCmp) (preKey p) (preKey q) := by
  match p, q, hp, hq with
  | none, none, _, _ => decide
  | some [], _, hp, _ => exact nomatch hp
  | _, some [], _, hq => exact nomatch hq
  | none, some (d :: ds), _, _ =>
    have : natCmp [] (d :: ds) ≠ .eq := fun h => nomatch length_eq_of_natCmp_eq _ _ h
    simp only [prePart, Option.getD, beq_iff_eq, this, if_false, falsy, if_true]
    rfl
  | some (c :: cs), none, _, _ =>
    have : natCmp (c :: cs) [] ≠ .eq := fun h => nomatch length_eq_of_natCmp_eq _ _ h
    simp only [prePart, Option.getD, beq_iff_eq, this, if_false, falsy, List.isEmpty_cons,
      Bool.false_eq_true, if_true]
    rfl
  | some (c :: cs), some (d :: ds), hp, hq =>
    simp only [wfPre, Bool.and_eq_true] at hp hq
    simp only [prePart, preKey, optTop, falsy, Option.getD_some, List.isEmpty_cons,
      Bool.false_eq_true, if_false, ite_eq_self]
    exact natCmp_eq_lex _ _ hp.2 hq.2

/-- `__lt__`/`__eq__` of `nuget.Version` order by base numbers, then revision, then pre-release:
`C`, `R`, `P` are the signs of the three parts. -/
theorem sign_table (C R P : Ordering) :
    (if (if (C.then .eq == .eq && R != .eq) = true then R == .lt else C.then P == .lt) = true
      then Ordering.lt
      else if (C.then P == .eq && R == .eq) = true then .eq else .gt) = (C.then R).then P := by
  cases C <;> cases R <;> cases P <;> rfl

theorem vercmpV_eq (x y : Ver) : vercmpV x y =
    ((c3 x y).then (compare x.revision y.revision)).then (prePart x.pre y.pre) := by
  have hpp : prePart (some []) (some []) = .eq := by decide
  rw [← sign_table]
  unfold vercmpV ltV eqV
  rw [semverCompare_eq, semverCompare_eq, hpp, nat_lt_eq_compare, nat_beq_eq_compare, bne, nat_beq_eq_compare]
  rfl

theorem vercmpV_eq_key (x y : Ver) (hx : WFV x = true) (hy : WFV y = true) :
    vercmpV x y = keyCmpV (keyV x) (keyV y) := by
  rw [vercmpV_eq, prePart_eq_key x.pre y.pre hx hy, c3, Ordering.then_assoc (compare x.major y.major),
    Ordering.then_assoc (compare x.minor y.minor)]
  rfl

/-- REFINEMENT: on well-formed values the code orders as the NuGet key does -/
theorem vercmp_eq_key (a b : Raw) (ha : WF a = true) (hb : WF b = true) :
    vercmp a b = keyCmp (key a) (key b) := by
  cases a <;> cases b <;> simp only [vercmp, key, keyCmp, optBot]
  exact vercmpV_eq_key _ _ ha hb

abbrev WFRaw : Type := { r : Raw // WF r = true }

def vercmpW (a b : WFRaw) : Ordering := vercmp a.1 b.1

instance : TransCmp vercmpW := by
  have : vercmpW = cmpOn (fun (r : WFRaw) => key r.1) keyCmp := by
    funext a b; exact vercmp_eq_key a.1 b.1 a.2 b.2
  rw [this]; infer_instance

theorem vercmp_oriented (a b : Raw) (ha : WF a = true) (hb : WF b = true) :
    vercmp a b = (vercmp b a).swap :=
  OrientedCmp.eq_swap (cmp := vercmpW) (a := ⟨a, ha⟩) (b := ⟨b, hb⟩)

theorem vercmp_isLE_trans (a b c : Raw) (ha : WF a = true) (hb : WF b = true) (hc : WF c = true) :
    (vercmp a b).isLE → (vercmp b c).isLE → (vercmp a c).isLE :=
  TransCmp.isLE_trans (cmp := vercmpW) (a := ⟨a, ha⟩) (b := ⟨b, hb⟩) (c := ⟨c, hc⟩)

/-! ### C02: the six operators -/

theorem eqV_imp_not_ltV (x y : Ver) (h : eqV x y = true) : ltV x y = false := by
  simp only [eqV, Bool.and_eq_true, beq_iff_eq] at h
  simp only [ltV, h.2, bne_self_eq_false, Bool.and_false, Bool.false_eq_true, if_false, h.1]
  rfl

theorem valOpsV_lawful : Lawful valOpsV vercmpV := by
  refine Py.lawful_totalOrdering (fun x y => ?_) (fun x y => ?_) <;> unfold vercmpV
  · cases ltV x y
    · cases eqV x y <;> rfl
    · rfl
  · cases h : eqV x y
    · cases ltV x y <;> rfl
    · rw [eqV_imp_not_ltV x y h]; rfl

theorem valOps_lawful : Lawful valOps vercmp := by
  constructor <;> intro a b <;> cases a <;> cases b
  case lt.some.some x y => exact valOpsV_lawful.lt x y
  case gt.some.some x y => exact valOpsV_lawful.gt x y
  case eq.some.some x y => exact valOpsV_lawful.eq x y
  case le.some.some x y => exact valOpsV_lawful.le x y
  case ge.some.some x y => exact valOpsV_lawful.ge x y
  case ne.some.some x y => exact valOpsV_lawful.ne x y
  all_goals rfl

theorem verOps_lawful : Lawful verOps vercmp := Py.lawful_attrs valOps_lawful

theorem prePart_eq_imp (p q : Option (List Char)) (hp : wfPre p = true) (hq : wfPre q = true)
    (h : prePart p q = .eq) : p = q := by
  rw [prePart_eq_key p q hp hq] at h
  match p, q, hp, hq, h with
  | none, none, _, _, _ => rfl
  | some [], _, hp, _, _ => nomatch hp
  | _, some [], _, hq, _ => nomatch hq
  | none, some (_ :: _), _, _, h => nomatch h
  | some (_ :: _), none, _, _, h => nomatch h
  | some (c :: cs), some (d :: ds), hp, hq, h =>
    simp only [wfPre, Bool.and_eq_true] at hp hq
    have e := lex_identOf_inj _ _ hp.2 hq.2 h
    rw [splitOn_eq, splitOn_eq] at e
    rw [Text.Str.splitChar_inj '.' e]

/-- C12: equal well-formed versions have the same hash key (the build metadata is ignored by
`==` and by the hash alike) -/
theorem eq_imp_hash (a b : Raw) (ha : WF a = true) (hb : WF b = true) :
    verOps.eq a b = true → hashKey a = hashKey b := by
  rw [verOps_lawful.eq, beq_iff_eq]
  match a, b, ha, hb with
  | none, none, _, _ => exact fun _ => rfl
  | none, some _, _, _ => exact nofun
  | some _, none, _, _ => exact nofun
  | some x, some y, ha, hb =>
    intro h
    rw [vercmp, vercmpV_eq] at h
    simp only [Ordering.then_eq_eq, c3, Nat.compare_eq_eq] at h
    obtain ⟨⟨⟨hM, hm, hp⟩, hr⟩, hP⟩ := h
    rw [hashKey, hashKey, hM, hm, hp, hr, prePart_eq_imp _ _ ha hb hP]

example : verOps.eq (some ⟨1, 0, 0, none, some ['a'], 0⟩) (some ⟨1, 0, 0, none, some ['b'], 0⟩) = true ∧
    hashKey (some ⟨1, 0, 0, none, some ['a'], 0⟩) = hashKey (some ⟨1, 0, 0, none, some ['b'], 0⟩) :=
  ⟨by decide, rfl⟩

/-- `WF` is needed: on values that `construct` never builds (a numeric label with a leading zero)
`==` holds between different prerelease strings -/
theorem eq_imp_hash_needs_wf :
    verOps.eq (some ⟨1, 0, 0, some "01.1".toList, none, 0⟩) (some ⟨1, 0, 0, some "1.01".toList, none, 0⟩) = true ∧
    hashKey (some ⟨1, 0, 0, some "01.1".toList, none, 0⟩) ≠ hashKey (some ⟨1, 0, 0, some "1.01".toList, none, 0⟩) ∧
    WF (some ⟨1, 0, 0, some "01.1".toList, none, 0⟩) = false :=
  ⟨by decide, by simp [hashKey], by decide⟩

theorem lowerChar_idem (c : Char) : lowerChar (lowerChar c) = lowerChar c := by
  have h1 := toNat_lowerChar c
  have h2 := toNat_lowerChar (lowerChar c)
  apply Char.toNat_inj.1
  omega

theorem isDigit_lowerChar (c : Char) : isDigit (lowerChar c) = isDigit c := by
  have := toNat_lowerChar c
  rw [Bool.eq_iff_iff, isDigit_iff, isDigit_iff]
  omega

theorem isIdChar_lowerChar (c : Char) : isIdChar (lowerChar c) = isIdChar c := by
  rcases toNat_lowerChar c with h | h
  · rw [(isIdChar_iff _).2 (by omega), (isIdChar_iff c).2 (by omega)]
  · rw [Char.toNat_inj.1 h.2]

theorem lowerChar_eq_dot (c : Char) : lowerChar c = '.' ↔ c = '.' := by
  have := toNat_lowerChar c
  rw [← Char.toNat_inj, ← Char.toNat_inj]
  simp only [Char.reduceToNat]
  omega

theorem lowerChar_of_digit (c : Char) (h : isDigit c = true) : lowerChar c = c := by
  have := toNat_lowerChar c
  have := (isDigit_iff c).1 h
  apply Char.toNat_inj.1
  omega

theorem lower_idem (s : List Char) : lower (lower s) = lower s := by
  rw [lower, lower, List.map_map]
  exact List.map_congr_left fun c _ => lowerChar_idem c

theorem all_lower (P : Char → Bool) (hP : ∀ c, P (lowerChar c) = P c) (s : List Char) :
    (lower s).all P = s.all P := by
  rw [lower, List.all_map]
  exact congrArg s.all (funext hP)

theorem lower_of_digits (s : List Char) (h : s.all isDigit = true) : lower s = s :=
  (List.map_congr_left (g := id) fun c hc => lowerChar_of_digit c (List.all_eq_true.1 h c hc)).trans
    (List.map_id s)

theorem splitOn_lower (s : List Char) : splitOn '.' (lower s) = (splitOn '.' s).map lower := by
  rw [splitOn_eq, splitOn_eq]
  exact Text.Str.splitChar_map '.' lowerChar lowerChar_eq_dot s

theorem validPreId_lower (x : List Char) (h : validPreId x = true) : validPreId (lower x) = true := by
  by_cases hd : x.all isDigit = true
  · rw [lower_of_digits x hd]; exact h
  · simp only [validPreId, Bool.and_eq_true] at h ⊢
    refine ⟨⟨?_, ?_⟩, ?_⟩
    · cases x with
      | nil => simp at h
      | cons c cs => rfl
    · rw [all_lower _ isIdChar_lowerChar]; exact h.1.2
    · rw [all_lower _ isDigit_lowerChar]; simp [hd]

theorem wfIdent_of_valid (x : List Char) (hv : validPreId x = true) (hl : lower x = x) :
    wfIdent x = true := by
  rw [wfIdent, hl, beq_self_eq_true, Bool.and_true]
  split
  · rename_i hd
    rw [Bool.and_eq_true] at hd
    rw [validPreId, Bool.and_eq_true, hd.2] at hv
    exact hv.2
  · rfl

def validPre : Option (List Char) → Bool
  | none => true
  | some p => (splitOn '.' p).all validPreId

def validBuild : Option (List Char) → Bool
  | none => true
  | some b => (splitOn '.' b).all validBuildId

/-- what `construct` establishes beyond `WFV` (`fromCoerced_built`) -/
def Built (v : Ver) : Prop :=
  validPre v.pre = true ∧ v.pre.map lower = v.pre ∧ validBuild v.build = true

theorem validBuild_of_validPre (p : Option (List Char)) (h : validPre p = true) :
    validBuild p = true := by
  cases p with
  | none => rfl
  | some p =>
    refine List.all_eq_true.2 fun x hx => ?_
    have := List.all_eq_true.1 h x hx
    rw [validPreId, Bool.and_eq_true] at this
    exact this.1

theorem validBuild_nonempty (b : List Char) (h : validBuild (some b) = true) : b.isEmpty = false := by
  cases b with
  | nil => exact nomatch h
  | cons c cs => rfl

theorem validBuild_chars (b : List Char) (h : validBuild (some b) = true) :
    ∀ c ∈ b, c = '.' ∨ isIdChar c = true := by
  have : (splitOn '.' b).all (·.all isIdChar) = true := List.all_eq_true.2 fun x hx => by
    have := List.all_eq_true.1 h x hx
    rw [validBuildId, Bool.and_eq_true] at this
    exact this.2
  rw [splitOn_eq, Text.Str.all_splitChar] at this
  intro c hc
  simpa using List.all_eq_true.1 this c hc

theorem parseBuild_valid {s : List Char} {b : Option (List Char)} (h : parseBuild s = some b) :
    validBuild b = true := by
  unfold parseBuild at h
  split at h
  · cases h; rfl
  · split at h
    · cases h; assumption
    · cases h
  · cases h

theorem parseTail_valid {s : List Char} {pre build : Option (List Char)}
    (h : parseTail s = some (pre, build)) : validPre pre = true ∧ validBuild build = true := by
  unfold parseTail at h
  split at h
  · split at h
    · rename_i hv
      obtain ⟨b, hb, e⟩ := Option.map_eq_some_iff.1 h
      cases e
      exact ⟨hv, parseBuild_valid hb⟩
    · cases h
  · obtain ⟨b, hb, e⟩ := Option.map_eq_some_iff.1 h
    cases e
    exact ⟨rfl, parseBuild_valid hb⟩

theorem semverParse_valid {s : List Char} {v : Ver} (h : semverParse s = some v) :
    validPre v.pre = true ∧ validBuild v.build = true := by
  unfold semverParse at h
  simp only [Option.bind_eq_bind, Option.bind_eq_some_iff] at h
  obtain ⟨⟨ma, r1⟩, _, h⟩ := h
  split at h
  · simp only [Option.bind_eq_some_iff] at h
    obtain ⟨⟨mi, r2⟩, _, h⟩ := h
    split at h
    · simp only [Option.bind_eq_some_iff] at h
      obtain ⟨⟨pa, r3⟩, _, ⟨pre, build⟩, ht, h⟩ := h
      cases h
      exact parseTail_valid ht
    · cases h
  · cases h

/-- `Version.__init__` lower-cases a truthy prerelease; a falsy one is `None` or empty -/
theorem pre_lowered : ∀ p : Option (List Char), (if falsy p then p else p.map lower) = p.map lower
  | none => rfl
  | some [] => rfl
  | some (_ :: _) => rfl

theorem validPre_lower (p : Option (List Char)) (h : validPre p = true) :
    validPre (p.map lower) = true := by
  cases p with
  | none => rfl
  | some p =>
    rw [Option.map_some, validPre, splitOn_lower, List.all_map]
    exact List.all_eq_true.2 fun x hx => validPreId_lower x (List.all_eq_true.1 h x hx)

theorem fromCoerced_built {s : List Char} {v : Ver} (h : fromCoerced s = some v) : Built v := by
  unfold fromCoerced at h
  simp only [] at h
  split at h
  · cases h
  · rename_i v0 hv0
    obtain ⟨hp, hb⟩ := semverParse_valid hv0
    cases h
    refine ⟨?_, ?_, hb⟩ <;> simp only [pre_lowered]
    · exact validPre_lower _ hp
    · cases v0.pre with
      | none => rfl
      | some p => exact congrArg some (lower_idem p)

theorem construct_ok {s : List Char} {r : Raw} (h : construct s = .ok r) :
    ∃ v, r = some v ∧ fromCoerced (normalize s) = some v := by
  unfold construct at h
  simp only [] at h
  split at h
  · cases h
  · split at h
    · cases h
    · split at h
      · cases h
      · rename_i v hv
        cases h
        exact ⟨v, rfl, hv⟩

theorem wfPre_of_built (p : Option (List Char)) (hv : validPre p = true) (hl : p.map lower = p) :
    wfPre p = true := by
  cases p with
  | none => rfl
  | some p =>
    have e : (splitOn '.' p).map lower = (splitOn '.' p).map id := by
      rw [← splitOn_lower, Option.some.inj hl, List.map_id]
    rw [wfPre, validBuild_nonempty p (validBuild_of_validPre _ hv)]
    exact List.all_eq_true.2 fun x hx =>
      wfIdent_of_valid x (List.all_eq_true.1 hv x hx) (List.map_eq_map_iff.1 e x hx)

theorem construct_wf (s : List Char) (r : Raw) (h : construct s = .ok r) : WF r = true := by
  obtain ⟨v, rfl, hv⟩ := construct_ok h
  obtain ⟨hp, hl, _⟩ := fromCoerced_built hv
  exact wfPre_of_built v.pre hp hl

theorem construct_isSome (s : List Char) (r : Raw) (h : construct s = .ok r) : r.isSome = true := by
  obtain ⟨v, rfl, _⟩ := construct_ok h
  rfl

/-- `NugetVersion(string)` raises nothing but `InvalidVersion` -/
theorem construct_declared (s : List Char) (n : String) : construct s ≠ .error (.other n) := by
  unfold construct
  simp only []
  split
  · simp
  · split
    · simp
    · split <;> simp

/-! ### NuGet folds case by upper-casing (`OrdinalIgnoreCase`); the code lower-cases -/

def upperChar (c : Char) : Char :=
  if 'a' ≤ c && c ≤ 'z' then Char.ofNat (c.toNat - 32) else c

def upper (s : List Char) : List Char := s.map upperChar

theorem toNat_upperChar (c : Char) :
    (97 ≤ c.toNat ∧ c.toNat ≤ 122 ∧ (upperChar c).toNat = c.toNat - 32) ∨
    (¬(97 ≤ c.toNat ∧ c.toNat ≤ 122) ∧ (upperChar c).toNat = c.toNat) := by
  simp only [upperChar, Bool.and_eq_true, decide_eq_true_eq, char_le_iff, Char.reduceToNat]
  split
  · rename_i h; exact .inl ⟨h.1, h.2, toNat_ofNat_of_lt _ (by omega)⟩
  · rename_i h; exact .inr ⟨h, rfl⟩

/-- on the label alphabet both foldings give the same character ≤ `'9'`, or a small letter and its
capital: the upper-cased character is a monotone function of the lower-cased one -/
theorem fold_class (c : Char) (h : isIdChar c = true) :
    ((lowerChar c).toNat ≤ 57 ∧ (upperChar c).toNat = (lowerChar c).toNat) ∨
    (97 ≤ (lowerChar c).toNat ∧ (lowerChar c).toNat = (upperChar c).toNat + 32) := by
  have hi := (isIdChar_iff c).1 h
  rcases toNat_lowerChar c with hl | hl <;> rcases toNat_upperChar c with hu | hu
  · omega
  · exact .inr (by omega)
  · exact .inr (by omega)
  · exact .inl (by omega)

theorem fold_char (c d : Char) (hc : isIdChar c = true) (hd : isIdChar d = true) :
    compare (lowerChar c) (lowerChar d) = compare (upperChar c) (upperChar d) := by
  have hc := fold_class c hc
  have hd := fold_class d hd
  rw [compare_toNat, compare_toNat]
  exact compare_congr (by omega) (by omega)

/-- on the label alphabet `[0-9A-Za-z-]` lower-case folding (the code, and `identOf`) and
upper-case folding (NuGet's `OrdinalIgnoreCase`) give the same order -/
theorem foldLower_eq_foldUpper : ∀ (a b : List Char), a.all isIdChar = true → b.all isIdChar = true →
    charsCmp (lower a) (lower b) = charsCmp (upper a) (upper b) := by
  intro a
  induction a with
  | nil => intro b _ _; cases b <;> rfl
  | cons c cs ih =>
    intro b ha hb
    cases b with
    | nil => rfl
    | cons d ds =>
      rw [List.all_cons, Bool.and_eq_true] at ha hb
      have := ih ds ha.2 hb.2
      simp only [charsCmp, lower, upper, List.map_cons, lexList] at this ⊢
      rw [fold_char c d ha.1 hb.1, this]

/-- outside the alphabet the two foldings differ (`_` lies between `Z` and `a`); such labels are
rejected by `construct` -/
theorem fold_differs_outside_alphabet :
    charsCmp (lower ['_']) (lower ['a']) = .lt ∧ charsCmp (upper ['_']) (upper ['a']) = .gt := by
  decide

/-! ### C11: `str` round trip -/

def Digits (l : List Char) : Prop := l ≠ [] ∧ ∀ c ∈ l, isDigit c = true

theorem natStr_digits (k : Nat) : Digits (natStr k) :=
  ⟨Nat.toDigits_ne_nil, fun _ hc => Nat.isDigit_of_mem_toDigits (by decide) (by decide) hc⟩

def HeadNotDigit (r : List Char) : Prop := ∀ c, r.head? = some c → isDigit c = false

def HeadNotNum (r : List Char) : Prop := ∀ c, r.head? = some c → isDigit c = false ∧ c ≠ '.'

theorem HeadNotNum.notDigit {r : List Char} (h : HeadNotNum r) : HeadNotDigit r :=
  fun c hc => (h c hc).1

theorem headNotDigit_dot (r : List Char) : HeadNotDigit ('.' :: r) := by
  intro c hc; cases hc; decide

theorem span_loop_append {α : Type} (p : α → Bool) (l r : List α) (hl : ∀ c ∈ l, p c = true)
    (hr : ∀ c, r.head? = some c → p c = false) :
    ∀ acc, List.span.loop p (l ++ r) acc = (acc.reverse ++ l, r) := by
  induction l with
  | nil =>
    intro acc
    cases r with
    | nil => simp [List.span.loop]
    | cons c cs => simp [List.span.loop, hr c rfl]
  | cons x xs ih =>
    intro acc
    simp only [List.cons_append, List.span.loop, hl x List.mem_cons_self]
    rw [ih (fun c hc => hl c (List.mem_cons_of_mem _ hc))]
    simp

theorem span_digits (l r : List Char) (hl : ∀ c ∈ l, isDigit c = true) (hr : HeadNotDigit r) :
    (l ++ r).span isDigit = (l, r) := by
  simp [List.span, span_loop_append isDigit l r hl hr]

theorem dotNum_digits (l r : List Char) (hl : Digits l) (hr : HeadNotDigit r) :
    dotNum ('.' :: (l ++ r)) = (some l, r) := by
  obtain ⟨x, xs, rfl⟩ := List.exists_cons_of_ne_nil hl.1
  simp only [dotNum, span_digits (x :: xs) r hl.2 hr]

theorem dotNum_none (r : List Char) (h : HeadNotNum r) : dotNum r = (none, r) := by
  unfold dotNum
  split
  · exact absurd rfl (h '.' rfl).2
  · rfl

def core3 (A B C rest : List Char) : List Char := A ++ '.' :: (B ++ '.' :: (C ++ rest))

theorem stripLeadingV_digit (a : Char) (r : List Char) (ha : isDigit a = true) :
    stripLeadingV (a :: r) = a :: r := by
  unfold stripLeadingV
  split
  · rename_i heq
    rw [(List.cons.inj heq).1] at ha
    exact absurd ha (by decide)
  · rfl

theorem coerce_core3 (A B C rest : List Char) (hA : Digits A) (hB : Digits B) (hC : Digits C)
    (hr : HeadNotDigit rest) :
    coerce (core3 A B C rest) =
      core3 (natStr (natVal A)) (natStr (natVal B)) (natStr (natVal C)) rest := by
  obtain ⟨a, A', rfl⟩ := List.exists_cons_of_ne_nil hA.1
  have h1 : stripLeadingV (core3 (a :: A') B C rest) = core3 (a :: A') B C rest :=
    stripLeadingV_digit a _ (hA.2 a List.mem_cons_self)
  simp only [coerce, h1]
  simp only [core3, span_digits _ _ hA.2 (headNotDigit_dot _),
    dotNum_digits _ _ hB (headNotDigit_dot _), dotNum_digits _ _ hC hr, Option.getD_some]
  simp only [List.append_assoc, List.cons_append]

def revS (n : Nat) : List Char := if n != 0 then '.' :: natStr n else []

theorem headNotDigit_revS (n : Nat) (T : List Char) (hT : HeadNotDigit T) :
    HeadNotDigit (revS n ++ T) := by
  unfold revS
  split
  · exact headNotDigit_dot _
  · exact hT

theorem extractRevision_core3 (A B C T : List Char) (n : Nat) (hA : Digits A) (hB : Digits B)
    (hC : Digits C) (hT : HeadNotNum T) :
    extractRevision (core3 A B C (revS n ++ T)) = (core3 A B C T, n) := by
  obtain ⟨a, A', rfl⟩ := List.exists_cons_of_ne_nil hA.1
  unfold revS
  split
  · simp only [extractRevision, core3, List.cons_append (as := natStr n),
      span_digits _ _ hA.2 (headNotDigit_dot _), dotNum_digits _ _ hB (headNotDigit_dot _),
      dotNum_digits _ _ hC (headNotDigit_dot _), dotNum_digits _ _ (natStr_digits n) hT.notDigit,
      natVal_natStr]
    simp only [List.append_assoc, List.cons_append]
  · rename_i hn
    simp only [extractRevision, core3, List.nil_append, span_digits _ _ hA.2 (headNotDigit_dot _),
      dotNum_digits _ _ hB (headNotDigit_dot _), dotNum_digits _ _ hC hT.notDigit, dotNum_none T hT]
    rw [show n = 0 by simpa using hn]

theorem numNoLead_natStr (k : Nat) (r : List Char) (hr : HeadNotDigit r) :
    numNoLead (natStr k ++ r) = some (k, r) := by
  have hc := natStr_canon k
  have hv := natVal_natStr k
  unfold numNoLead
  rw [span_digits _ _ (natStr_digits k).2 hr]
  obtain ⟨x, xs, hn⟩ := List.exists_cons_of_ne_nil (natStr_digits k).1
  rw [hn] at hc hv ⊢
  simp only [canonNum] at hc
  simp only [hc, if_true, hv]

theorem semverParse_core3 (M m p : Nat) (T : List Char) (hT : HeadNotDigit T)
    (pre build : Option (List Char)) (h : parseTail T = some (pre, build)) :
    semverParse (core3 (natStr M) (natStr m) (natStr p) T) =
      some ⟨M, m, p, pre, build, 0⟩ := by
  simp only [semverParse, core3, numNoLead_natStr _ _ (headNotDigit_dot _), numNoLead_natStr _ _ hT,
    h, Option.bind_eq_bind, Option.bind_some, Option.pure_def]

def tagS (t : Char) : Option (List Char) → List Char
  | some p => t :: p
  | none => []

theorem headNotNum_tail (pre build : Option (List Char)) : HeadNotNum (tagS '-' pre ++ tagS '+' build) := by
  cases pre <;> cases build <;> intro c hc <;> cases hc <;> decide

theorem parseBuild_tagS (build : Option (List Char)) (hb : validBuild build = true) :
    parseBuild (tagS '+' build) = some build := by
  cases build with
  | none => rfl
  | some b => exact if_pos hb

/-- the prerelease group of the regex stops where `build` starts: a valid prerelease has no `+` -/
theorem takeWhile_ne_plus (p : List Char) (build : Option (List Char))
    (hp : validPre (some p) = true) :
    (p ++ tagS '+' build).takeWhile (· != '+') = p ∧
    (p ++ tagS '+' build).dropWhile (· != '+') = tagS '+' build := by
  have hp : ∀ a ∈ p, (a != '+') = true := fun a ha => by
    rcases validBuild_chars p (validBuild_of_validPre _ hp) a ha with e | e <;>
      exact bne_iff_ne.2 fun e' => by subst e'; exact absurd e (by decide)
  rw [List.takeWhile_append_of_pos hp, List.dropWhile_append_of_pos hp]
  cases build <;> simp [tagS]

theorem parseTail_tail (pre build : Option (List Char)) (hp : validPre pre = true)
    (hb : validBuild build = true) : parseTail (tagS '-' pre ++ tagS '+' build) = some (pre, build) := by
  cases pre with
  | none =>
    cases build with
    | none => rfl
    | some b => exact congrArg (Option.map fun b => (none, b)) (parseBuild_tagS (some b) hb)
  | some p =>
    have ⟨ht, hd⟩ := takeWhile_ne_plus p build hp
    show parseTail ('-' :: (p ++ tagS '+' build)) = _
    simp only [parseTail, ht, hd, show (splitOn '.' p).all validPreId = true from hp, if_true,
      parseBuild_tagS build hb, Option.map_some]

/-- `to_string` leaves out an empty part; a valid part is not empty -/
theorem strV_eq (v : Ver) (h : Built v) :
    strV v = core3 (natStr v.major) (natStr v.minor) (natStr v.patch)
      (revS v.revision ++ (tagS '-' v.pre ++ tagS '+' v.build)) := by
  obtain ⟨M, m, p, pre, build, rev⟩ := v
  have hp : validBuild pre = true := validBuild_of_validPre _ h.1
  have hb : validBuild build = true := h.2.2
  cases pre <;> cases build <;>
    simp only [strV, tagS, core3, revS, validBuild_nonempty, hp, hb, Bool.false_eq_true, if_false,
      List.append_assoc, List.cons_append, List.nil_append, List.append_nil]

theorem fromCoerced_strV (v : Ver) (h : Built v) : fromCoerced (strV v) = some v := by
  have hT := headNotNum_tail v.pre v.build
  have hd := natStr_digits
  simp only [strV_eq v h, fromCoerced, natVal_natStr,
    coerce_core3 _ _ _ _ (hd _) (hd _) (hd _) (headNotDigit_revS _ _ hT.notDigit),
    extractRevision_core3 _ _ _ _ _ (hd _) (hd _) (hd _) hT,
    coerce_core3 _ _ _ _ (hd _) (hd _) (hd _) hT.notDigit,
    semverParse_core3 _ _ _ _ hT.notDigit _ _ (parseTail_tail _ _ h.1 h.2.2),
    (pre_lowered _).trans h.2.1]

/-- every character of `str` is a digit, a label character, `.` or `+` -/
theorem strV_chars (v : Ver) (h : Built v) : ∀ c ∈ strV v, 43 ≤ c.toNat := by
  intro c hc
  have hdig : ∀ k, c ∈ natStr k → 43 ≤ c.toNat := fun k hk => by
    have := (isDigit_iff c).1 ((natStr_digits k).2 c hk); omega
  have htag : ∀ t p, 43 ≤ t.toNat → validBuild p = true → c ∈ tagS t p → 43 ≤ c.toNat := by
    intro t p ht hp hc
    cases p with
    | none => cases hc
    | some b =>
      rcases List.mem_cons.1 hc with rfl | e
      · exact ht
      · rcases validBuild_chars b hp c e with rfl | e
        · decide
        · have := (isIdChar_iff c).1 e; omega
  rw [strV_eq v h] at hc
  simp only [core3, revS, List.mem_append, List.mem_cons] at hc
  rcases hc with hc | rfl | hc | rfl | hc | hc | hc | hc
  · exact hdig _ hc
  · decide
  · exact hdig _ hc
  · decide
  · exact hdig _ hc
  · split at hc
    · rcases List.mem_cons.1 hc with rfl | e
      · decide
      · exact hdig _ e
    · cases hc
  · exact htag '-' _ (by decide) (validBuild_of_validPre _ h.1) hc
  · exact htag '+' _ (by decide) h.2.2 hc

theorem notSpace_of_ge (c : Char) (h : 43 ≤ c.toNat) : isPySpace c = false := by
  simp only [isPySpace, Bool.or_eq_false_iff, Bool.and_eq_false_iff, beq_eq_false_iff_ne, ne_eq,
    decide_eq_false_iff_not, ← Char.toNat_inj, Char.reduceToNat]
  omega

theorem strV_head (v : Ver) (h : Built v) : ∃ d rest, strV v = d :: rest ∧ isDigit d = true := by
  rw [strV_eq v h]
  obtain ⟨x, xs, hn⟩ := List.exists_cons_of_ne_nil (natStr_digits v.major).1
  exact ⟨x, _, by rw [hn]; rfl, (natStr_digits v.major).2 x (by rw [hn]; exact List.mem_cons_self)⟩

theorem normalize_strV (v : Ver) (h : Built v) : normalize (strV v) = strV v := by
  unfold normalize
  rw [List.filter_eq_self.2 fun c hc => by rw [notSpace_of_ge c (strV_chars v h c hc)]; rfl]
  obtain ⟨d, rest, hs, hd⟩ := strV_head v h
  rw [hs]
  refine List.dropWhile_cons_of_neg fun hv => ?_
  simp only [Bool.or_eq_true, beq_iff_eq] at hv
  rcases hv with e | e <;> (subst e; exact absurd hd (by decide))

theorem construct_strV (v : Ver) (h : Built v) : construct (strV v) = .ok (some v) := by
  obtain ⟨d, rest, hs, hd⟩ := strV_head v h
  have hf := fromCoerced_strV v h
  simp only [construct, normalize_strV v h]
  rw [hs] at hf ⊢
  simp [hd, hf]

/-- C11: a constructed version is rebuilt from its `str` -/
theorem str_roundtrip (s : List Char) (r : Raw) (h : construct s = .ok r) :
    construct (str r) = .ok r := by
  obtain ⟨v, rfl, hv⟩ := construct_ok h
  exact construct_strV v (fromCoerced_built hv)

end Univers.Nuget
