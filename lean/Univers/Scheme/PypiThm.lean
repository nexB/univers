/-
Theorems about the Layer-A model of `PypiVersion` (`packaging.version.Version`).

The six tuple rich comparisons of the keys are the six views of one three-way comparison `ckeyCmp`
(`keyOp_eq_ordOp`), and the order computed through `_cmpkey` (trimmed release, flat 6-int suffix
with ranks −1…3, `(n, "")`/`(−1, s)` local pairs, 3- vs 4-tuples) is the PEP 440 order of `PypiSpec`
(`vercmp_eq_key`, C03).  From these the comparator laws, C02 and C12; then `str_roundtrip` (C11).
-/
import Univers.Scheme.Pypi
import Univers.Scheme.PypiSpec
import Univers.Basic.PadLexEq
import Univers.Basic.Digits
import Univers.Py.AttrsThm
import Univers.Text.Str

namespace Univers.Pypi

open Univers Std

/-- `tuple_richcompare` at one position: items that differ decide, items that are `==` pass the
question on -/
theorem ordOp_then (c : Cmpr) (o o' : Ordering) :
    (if !ordOp .eq o then ordOp c o else ordOp c o') = ordOp c (o.then o') := by
  cases o <;> rfl

theorem beq_eq_ordOp {α : Type} [BEq α] [LawfulBEq α] {cmp : α → α → Ordering} {x y : α}
    (h : cmp x y = .eq ↔ x = y) : (x == y) = ordOp .eq (cmp x y) := by
  rw [Bool.eq_iff_iff]; simp [ordOp, h]

theorem strCmp_eq_iff (s t : List Char) : strCmp s t = .eq ↔ s = t :=
  lexList_eq_iff (fun _ _ => compare_eq_iff_eq) s t

theorem tupOp_eq_ordOp {α : Type} (cmp : α → α → Ordering) (eq : α → α → Bool)
    (op : Cmpr → α → α → Bool)
    (heq : ∀ x y, eq x y = ordOp .eq (cmp x y)) (hop : ∀ c x y, op c x y = ordOp c (cmp x y))
    (c : Cmpr) (xs ys : List α) :
    tupOp eq op c xs ys = ordOp c (lexList cmp xs ys) := by
  induction xs generalizing ys with
  | nil => cases ys <;> rfl
  | cons x xs ih =>
    cases ys with
    | nil => rfl
    | cons y ys =>
      simp only [tupOp, lexList, heq, hop, ih]
      cases cmp x y <;> rfl

theorem natTupOp_eq_ordOp (c : Cmpr) (xs ys : List Nat) :
    tupOp (· == ·) natOp c xs ys = ordOp c (lexList compare xs ys) :=
  tupOp_eq_ordOp compare _ _ (fun _ _ => beq_eq_ordOp Nat.compare_eq_eq) (fun _ _ _ => rfl) c xs ys

theorem intTupOp_eq_ordOp (c : Cmpr) (xs ys : List Int) :
    tupOp (· == ·) intOp c xs ys = ordOp c (lexList compare xs ys) :=
  tupOp_eq_ordOp compare _ _ (fun _ _ => beq_eq_ordOp Int.compare_eq_eq) (fun _ _ _ => rfl) c xs ys

theorem pairOp_eq (c : Cmpr) (a b : Int × List Char) :
    pairOp c a b = ordOp c (lexPair compare strCmp a b) := by
  simp only [pairOp, bne, beq_eq_ordOp Int.compare_eq_eq, beq_eq_ordOp (strCmp_eq_iff _ _), intOp,
    strOp, ordOp_then, Ordering.then_eq, lexPair]

theorem pairTupOp_eq_ordOp (c : Cmpr) (xs ys : List (Int × List Char)) :
    tupOp (pairOp .eq) pairOp c xs ys = ordOp c (lexList (lexPair compare strCmp) xs ys) :=
  tupOp_eq_ordOp _ _ _ (pairOp_eq .eq) pairOp_eq c xs ys

theorem keyOp_eq_ordOp (c : Cmpr) (a b : CKey) : keyOp c a b = ordOp c (ckeyCmp a b) := by
  simp only [keyOp, ckeyCmp, natOp, natTupOp_eq_ordOp, intTupOp_eq_ordOp, pairTupOp_eq_ordOp]
  simp only [bne, beq_eq_ordOp Nat.compare_eq_eq]
  cases a.loc <;> cases b.loc <;> simp only [ordOp_then, Ordering.then_eq]

theorem valOps_lawful : Lawful valOps vercmp := by
  constructor <;> intro a b <;> simp only [valOps, keyOp_eq_ordOp] <;> rfl

/-- C02: the six operators of `PypiVersion` (attrs on top of packaging) are the ones induced
by the three-way order. -/
theorem verOps_lawful : Lawful verOps vercmp := Py.lawful_attrs valOps_lawful

theorem take_trimIdx (rel : List Nat) :
    ∀ i, i ≤ rel.length → rel.take (trimIdx rel i) = stripTrail 0 (rel.take i)
  | 0, _ => rfl
  | i + 1, hi => by
    have hlt : i < rel.length := hi
    have hget : rel.getD i 1 = rel[i] := by simp [List.getD, hlt]
    rw [trimIdx, hget, List.take_succ_eq_append_getElem hlt, stripTrail_append, stripTrail, stripTrail]
    by_cases h0 : rel[i] = 0
    · simpa [h0] using take_trimIdx rel i (Nat.le_of_lt hlt)
    · simp [h0]

theorem cmp_zero (y : Nat) : compare 0 y = if y = 0 then .eq else .lt := by
  cases y <;> simp [Nat.compare_eq_lt]

theorem strip_cons {x : Nat} {xs : List Nat} (h : stripTrail 0 (x :: xs) = x :: xs) :
    stripTrail 0 xs = xs ∧ (xs = [] → x ≠ 0) := by
  rw [stripTrail] at h
  split at h
  · cases h
  · rename_i hn
    have hs := (List.cons.inj h).2
    exact ⟨hs, fun e e0 => hn ⟨hs.trans e, e0⟩⟩

/-- without trailing zeros, what the longer release has more is above the zeros it is compared
with -/
theorem padLex_nil_lt : ∀ r : List Nat, r ≠ [] → stripTrail 0 r = r → padLex compare 0 [] r = .lt
  | y :: ys, _, h => by
    rw [padLex, cmp_zero]
    split
    · rw [padLex_nil_lt ys (fun e => (strip_cons h).2 e ‹_›) (strip_cons h).1]; rfl
    · rfl

theorem padLex_eq_lexList : ∀ l r : List Nat, stripTrail 0 l = l → stripTrail 0 r = r →
    padLex compare 0 l r = lexList compare l r
  | [], [], _, _ => by rw [padLex]; rfl
  | [], y :: ys, _, hr => padLex_nil_lt _ (List.cons_ne_nil _ _) hr
  | x :: xs, [], hl, _ => by
    rw [OrientedCmp.eq_swap (cmp := padLex compare 0), padLex_nil_lt _ (List.cons_ne_nil _ _) hl]
    rfl
  | x :: xs, y :: ys, hl, hr => by
    rw [padLex, lexList, padLex_eq_lexList xs ys (strip_cons hl).1 (strip_cons hr).1]

theorem trimmed_cmp (a b : List Nat) :
    lexList compare (trimmed a) (trimmed b) = padLex compare 0 a b := by
  rw [trimmed, trimmed, take_trimIdx a _ (Nat.le_refl _), take_trimIdx b _ (Nat.le_refl _),
    List.take_length, List.take_length,
    ← padLex_eq_lexList _ _ (stripTrail_idem 0 a) (stripTrail_idem 0 b),
    padLex_stripTrail compare 0 rfl, OrientedCmp.eq_swap (cmp := padLex compare 0),
    padLex_stripTrail compare 0 rfl, ← OrientedCmp.eq_swap]

theorem cmpCast (m n : Nat) : compare (m : Int) (n : Int) = compare m n := by
  rw [Int.compare_eq_ite_lt, Nat.compare_eq_ite_lt]
  simp only [Int.ofNat_lt]

/-- the suffix of `_cmpkey`, two entries at a time: `phaseKey`, `postKey`, `devKey` -/
def phaseKey : Phase → Int × Int
  | .devOnly => (-1, 0)
  | .pre l n => (l.rank, n)
  | .final => (3, 0)

def postKey : Option Nat → Int × Int
  | none => (0, 0)
  | some n => (1, n)

def devKey : Option Nat → Int × Int
  | none => (1, 0)
  | some n => (0, n)

/-- `_cmpkey` without its fast path -/
theorem cmpkey_eq (r : Raw) :
    cmpkey r = { epoch := r.epoch, release := trimmed r.release,
                 suffix := [(phaseKey (phase r)).1, (phaseKey (phase r)).2, (postKey r.post).1,
                   (postKey r.post).2, (devKey r.dev).1, (devKey r.dev).2],
                 loc := r.loc.map (fun l => l.map cmpLocalSeg) } := by
  obtain ⟨e, rel, pre, post, dev, loc⟩ := r
  cases pre <;> cases post <;> cases dev <;> cases loc <;> rfl

theorem phaseKey_cmp : ∀ p q : Phase,
    lexPair compare compare (phaseKey p) (phaseKey q) = Phase.cmp p q
  | .pre l n, .pre l' n' => by
    simp only [lexPair, phaseKey, Phase.cmp, cmpCast]
    cases l <;> cases l' <;> rfl
  | .devOnly, .devOnly | .devOnly, .final | .final, .devOnly | .final, .final => rfl
  | .devOnly, .pre l _ | .final, .pre l _ | .pre l _, .devOnly | .pre l _, .final => by
    cases l <;> rfl

theorem postKey_cmp : ∀ p q : Option Nat,
    lexPair compare compare (postKey p) (postKey q) = optFirst compare p q
  | none, none | none, some _ | some _, none => rfl
  | some m, some n => cmpCast m n

theorem devKey_cmp : ∀ p q : Option Nat,
    lexPair compare compare (devKey p) (devKey q) = optLast compare p q
  | none, none | none, some _ | some _, none => rfl
  | some m, some n => cmpCast m n

theorem localSeg_cmp : ∀ s t : LSeg,
    lexPair compare strCmp (cmpLocalSeg s) (cmpLocalSeg t) = LSeg.cmp s t
  | .num m, .num n => by simp [lexPair, cmpLocalSeg, LSeg.cmp, cmpCast, strCmp, lexList]
  | .num m, .str _ => by
    have : compare (m : Int) (-1) = .gt := Int.compare_eq_gt.2 (by omega)
    simp [lexPair, cmpLocalSeg, LSeg.cmp, this]
  | .str _, .num n => by
    have : compare (-1 : Int) (n : Int) = .lt := Int.compare_eq_lt.2 (by omega)
    simp [lexPair, cmpLocalSeg, LSeg.cmp, this]
  | .str _, .str _ => by simp [lexPair, cmpLocalSeg, LSeg.cmp, strCmp]

theorem local_cmp (x y : List LSeg) :
    lexList (lexPair compare strCmp) (x.map cmpLocalSeg) (y.map cmpLocalSeg) =
      lexList LSeg.cmp x y := by
  induction x generalizing y with
  | nil => cases y <;> rfl
  | cons a x ih =>
    cases y with
    | nil => rfl
    | cons b y => simp only [List.map_cons, lexList, localSeg_cmp, ih]

theorem lexList_pair {α : Type} (cmp : α → α → Ordering) (a b : α × α) (xs ys : List α) :
    lexList cmp (a.1 :: a.2 :: xs) (b.1 :: b.2 :: ys) =
      (lexPair cmp cmp a b).then (lexList cmp xs ys) :=
  (Ordering.then_assoc ..).symm

/-- the tuple comparison when the last entries are local parts as `_cmpkey` writes them -/
theorem ckeyCmp_local (e e' : Nat) (r r' : List Nat) (s s' : List Int) (x y : Option (List LSeg)) :
    ckeyCmp ⟨e, r, s, x.map (·.map cmpLocalSeg)⟩ ⟨e', r', s', y.map (·.map cmpLocalSeg)⟩ =
      (compare e e').then ((lexList compare r r').then ((lexList compare s s').then
        (optFirst (lexList LSeg.cmp) x y))) := by
  cases x <;> cases y <;> simp only [ckeyCmp, Option.map, local_cmp, optFirst]

/-- REFINEMENT (C03): the order that `packaging` computes through `_cmpkey` and tuple comparison is
the PEP 440 order of `PypiSpec`. -/
theorem vercmp_eq_key (a b : Raw) : vercmp a b = keyCmp (key a) (key b) := by
  rw [vercmp, cmpkey_eq, cmpkey_eq, ckeyCmp_local, trimmed_cmp]
  rw [lexList_pair, lexList_pair, lexList_pair, phaseKey_cmp, postKey_cmp, devKey_cmp]
  simp only [lexList, Ordering.then_eq, Ordering.then_assoc]
  rfl

instance : TransCmp vercmp := by
  have h : vercmp = cmpOn key keyCmp := by
    funext a b; exact vercmp_eq_key a b
  rw [h]; infer_instance

theorem pairCmp_eq_iff (x y : Int × List Char) : lexPair compare strCmp x y = .eq ↔ x = y := by
  simp only [lexPair, Ordering.then_eq_eq, Int.compare_eq_eq, strCmp_eq_iff, Prod.ext_iff]

theorem ckeyCmp_eq_iff (a b : CKey) : ckeyCmp a b = .eq ↔ a = b := by
  obtain ⟨ea, ra, sa, la⟩ := a
  obtain ⟨eb, rb, sb, lb⟩ := b
  simp only [ckeyCmp, Ordering.then_eq_eq, Nat.compare_eq_eq, CKey.mk.injEq,
    lexList_eq_iff fun (_ _ : Nat) => Nat.compare_eq_eq,
    lexList_eq_iff fun (_ _ : Int) => Int.compare_eq_eq]
  cases la <;> cases lb <;> simp [lexList_eq_iff pairCmp_eq_iff]

theorem eq_iff_hash (a b : Raw) : verOps.eq a b = true ↔ hashKey a = hashKey b := by
  show keyOp .eq (cmpkey a) (cmpkey b) = true ↔ cmpkey a = cmpkey b
  rw [keyOp_eq_ordOp]
  exact beq_iff_eq.trans (ckeyCmp_eq_iff _ _)

/-- C12: versions that are `==` have the same hash key (`hash(v) = hash(v._key)`). -/
theorem eq_imp_hash (a b : Raw) : verOps.eq a b = true → hashKey a = hashKey b :=
  (eq_iff_hash a b).1

theorem hash_imp_eq (a b : Raw) (h : hashKey a = hashKey b) : verOps.eq a b = true :=
  (eq_iff_hash a b).2 h

theorem isDigit_iff (c : Char) : c.isDigit = true ↔ 48 ≤ c.toNat ∧ c.toNat ≤ 57 :=
  Char.isDigit_iff_toNat

theorem isUpper_iff (c : Char) : c.isUpper = true ↔ 65 ≤ c.toNat ∧ c.toNat ≤ 90 := by
  simp [Char.isUpper, UInt32.le_iff_toNat_le]

theorem isLower_iff (c : Char) : c.isLower = true ↔ 97 ≤ c.toNat ∧ c.toNat ≤ 122 := by
  simp [Char.isLower, UInt32.le_iff_toNat_le]

theorem toLower_of_not_upper {c : Char} (h : c.isUpper = false) : c.toLower = c :=
  dif_neg (of_decide_eq_false h)

theorem toLower_of_upper {c : Char} (h : c.isUpper = true) : c.toLower.toNat = c.toNat + 32 := by
  rw [Char.toLower, dif_pos (of_decide_eq_true h)]
  exact Nat.mod_eq_of_lt
    (Nat.lt_of_le_of_lt (Nat.add_le_add_right ((isUpper_iff c).1 h).2 32) (by decide))

/-- `[0-9a-z]` -/
def lowerAlnum (c : Char) : Bool := c.isDigit || c.isLower

theorem lowerAlnum_facts (c : Char) (h : lowerAlnum c = true) :
    isAlnum c = true ∧ c.toLower = c ∧ isSpace c = false ∧ isSep c = false := by
  have hr : (48 ≤ c.toNat ∧ c.toNat ≤ 57) ∨ (97 ≤ c.toNat ∧ c.toNat ≤ 122) := by
    rwa [lowerAlnum, Bool.or_eq_true, isDigit_iff, isLower_iff] at h
  refine ⟨?_, toLower_of_not_upper ?_, ?_, ?_⟩
  · rw [lowerAlnum, Bool.or_comm] at h
    rw [isAlnum, Char.isAlphanum, Char.isAlpha, Bool.or_assoc, h, Bool.or_true]
  · rw [← Bool.not_eq_true, isUpper_iff]; omega
  · simp only [isSpace, Bool.or_eq_false_iff, Bool.and_eq_false_iff, decide_eq_false_iff_not]
    omega
  · simp only [isSep, Bool.or_eq_false_iff, beq_eq_false_iff_ne, ne_eq, ← Char.toNat_inj,
      Char.reduceToNat]
    omega

theorem digit_lowerAlnum (d : Char) (h : d.isDigit = true) : lowerAlnum d = true :=
  Bool.or_eq_true_iff.2 (.inl h)

theorem digit_ne (d p : Char) (h : d.isDigit = true) (hp : p.isDigit = false) : (d == p) = false :=
  beq_eq_false_iff_ne.2 fun e => by rw [e, hp] at h; cases h

theorem natStr_digit (n : Nat) : ∀ c ∈ natStr n, c.isDigit = true := toDigits_isDigit n

theorem natStr_ne_nil (n : Nat) : natStr n ≠ [] := Nat.toDigits_ne_nil

theorem pyInt_natStr (n : Nat) : pyInt (natStr n) = n := Nat.ofDigitChars_ten_toDigits

theorem map_pyInt_natStr (l : List Nat) : (l.map natStr).map pyInt = l := by
  induction l with
  | nil => rfl
  | cons n l ih => rw [List.map_cons, List.map_cons, pyInt_natStr, ih]

theorem natStr_parts (l : List Nat) :
    ∀ p ∈ l.map natStr, p ≠ [] ∧ ∀ c ∈ p, c.isDigit = true := fun p hp => by
  obtain ⟨n, _, rfl⟩ := List.mem_map.1 hp
  exact ⟨natStr_ne_nil n, natStr_digit n⟩

theorem natStr_cons (n : Nat) : ∃ d ds, natStr n = d :: ds ∧ d.isDigit = true := by
  cases h : natStr n with
  | nil => exact absurd h (natStr_ne_nil n)
  | cons d ds => exact ⟨d, ds, rfl, natStr_digit n d (h ▸ List.mem_cons_self)⟩

def preStr : Option (PreL × Nat) → List Char
  | some (l, n) => l.text ++ natStr n
  | none => []

def postStr : Option Nat → List Char
  | some n => ['.', 'p', 'o', 's', 't'] ++ natStr n
  | none => []

def devStr : Option Nat → List Char
  | some n => ['.', 'd', 'e', 'v'] ++ natStr n
  | none => []

def locStr : Option (List LSeg) → List Char
  | some (x :: xs) => '+' :: join ['.'] ((x :: xs).map LSeg.text)
  | _ => []

def epochStr (e : Nat) : List Char := if e != 0 then natStr e ++ ['!'] else []

/-- `str` appends the parts one after the other; the proof takes them off from the last one on -/
theorem str_eq (r : Raw) :
    str r = epochStr r.epoch ++ (join ['.'] (r.release.map natStr) ++
      (preStr r.pre ++ (postStr r.post ++ (devStr r.dev ++ locStr r.loc)))) := by
  obtain ⟨e, rel, pre, post, dev, loc⟩ := r
  have h5 : str ⟨e, rel, pre, post, dev, loc⟩ =
      str ⟨e, rel, pre, post, dev, none⟩ ++ locStr loc := by
    rcases loc with _ | _ | ⟨x, xs⟩
    · exact (List.append_nil _).symm
    · exact (List.append_nil _).symm
    · exact List.append_assoc _ ['+'] _
  have h4 : str ⟨e, rel, pre, post, dev, none⟩ =
      str ⟨e, rel, pre, post, none, none⟩ ++ devStr dev := by
    cases dev with
    | none => exact (List.append_nil _).symm
    | some n => simp only [str, devStr, String.reduceToList, List.append_assoc]
  have h3 : str ⟨e, rel, pre, post, none, none⟩ =
      str ⟨e, rel, pre, none, none, none⟩ ++ postStr post := by
    cases post with
    | none => exact (List.append_nil _).symm
    | some n => simp only [str, postStr, String.reduceToList, List.append_assoc]
  have h2 : str ⟨e, rel, pre, none, none, none⟩ =
      str ⟨e, rel, none, none, none, none⟩ ++ preStr pre := by
    rcases pre with _ | ⟨l, n⟩
    · exact (List.append_nil _).symm
    · exact List.append_assoc _ _ _
  have h1 : str ⟨e, rel, none, none, none, none⟩ = epochStr e ++ join ['.'] (rel.map natStr) := by
    simp only [str, epochStr]; split <;> rfl
  rw [h5, h4, h3, h2, h1]; simp only [List.append_assoc]

def headNot (p : Char → Bool) : List Char → Bool
  | [] => true
  | c :: _ => !p c

theorem takeWhile_append_headNot (p : Char → Bool) (xs t : List Char)
    (hx : ∀ c ∈ xs, p c = true) (ht : headNot p t = true) :
    (xs ++ t).takeWhile p = xs ∧ (xs ++ t).dropWhile p = t := by
  rw [List.takeWhile_append_of_pos hx, List.dropWhile_append_of_pos hx]
  cases t with
  | nil => simp
  | cons c r =>
    have : p c = false := by simpa [headNot] using ht
    simp [this]

theorem digits_append (ds t : List Char) (hd : ∀ c ∈ ds, c.isDigit = true)
    (ht : headNot Char.isDigit t = true) : digits (ds ++ t) = (ds, t) := by
  have := takeWhile_append_headNot Char.isDigit ds t hd ht
  rw [digits, this.1, this.2]

/-- where `(?: SEP BODY+ )*+` stops: at the end, at a non-separator, or at a separator that
is not followed by a BODY character -/
def stops (sep body : Char → Bool) : List Char → Bool
  | [] => true
  | c :: r => !sep c || headNot body r

theorem sepRuns_stop (sep body : Char → Bool) (t : List Char) (ht : stops sep body t = true) :
    sepRuns sep body t = ([], t) := by
  cases t with
  | nil => simp [sepRuns]
  | cons c r =>
    rw [sepRuns]
    by_cases hs : sep c = true
    · have hr : headNot body r = true := by simpa [stops, hs] using ht
      have : r.takeWhile body = [] := by
        cases r with
        | nil => rfl
        | cons d r' =>
          have : body d = false := by simpa [headNot] using hr
          simp [this]
      simp [hs, this]
    · simp [hs]

theorem headNot_parts (q : Char → Bool) (sc : Char) (hq : q sc = false) (ps : List (List Char))
    (t : List Char) (ht : headNot q t = true) :
    headNot q ((ps.map (sc :: ·)).flatten ++ t) = true := by
  cases ps with
  | nil => exact ht
  | cons p ps =>
    rw [List.map_cons, List.flatten_cons, List.cons_append, List.cons_append, headNot, hq]
    rfl

theorem sepRuns_parts (sep body : Char → Bool) (sc : Char) (hs : sep sc = true)
    (hb : body sc = false) (parts : List (List Char))
    (hp : ∀ p ∈ parts, p ≠ [] ∧ ∀ c ∈ p, body c = true) (t : List Char)
    (ht1 : headNot body t = true) (ht2 : stops sep body t = true) :
    sepRuns sep body ((parts.map (sc :: ·)).flatten ++ t) = (parts, t) := by
  induction parts with
  | nil => exact sepRuns_stop sep body t ht2
  | cons p ps ih =>
    have hp' := hp p List.mem_cons_self
    have htd := takeWhile_append_headNot body p _ hp'.2 (headNot_parts body sc hb ps t ht1)
    simp only [List.map_cons, List.flatten_cons, List.cons_append, List.append_assoc]
    rw [sepRuns, if_pos hs, htd.1, htd.2, ih fun q hq => hp q (List.mem_cons_of_mem _ hq)]
    cases p with
    | nil => exact absurd rfl hp'.1
    | cons x xs => rfl

theorem join_cons (x : List Char) (xs : List (List Char)) :
    join ['.'] (x :: xs) = x ++ (xs.map ('.' :: ·)).flatten := by
  induction xs generalizing x with
  | nil => simp [join]
  | cons y ys ih => rw [join, ih]; simp

theorem optSep_cons (c : Char) (r : List Char) :
    optSep (c :: r) = if isSep c then r else c :: r := rfl

theorem digits_natStr (n : Nat) (t : List Char) (ht : headNot Char.isDigit t = true) :
    digits (optSep (natStr n ++ t)) = (natStr n, t) := by
  obtain ⟨d, ds, hn, hd⟩ := natStr_cons n
  rw [hn, List.cons_append, optSep_cons, (lowerAlnum_facts d (digit_lowerAlnum d hd)).2.2.2,
    ← List.cons_append, ← hn]
  exact digits_append _ _ (natStr_digit n) ht

theorem litCI_natStr (p : Char) (ps : List Char) (n : Nat) (t : List Char)
    (hp : p.isDigit = false) : litCI (p :: ps) (natStr n ++ t) = none := by
  obtain ⟨d, ds, hn, hd⟩ := natStr_cons n
  rw [hn, List.cons_append, litCI, (lowerAlnum_facts d (digit_lowerAlnum d hd)).2.1,
    digit_ne d p hd hp]
  rfl

/-- a local segment as `_parse_local_version` produces it: an `int`, or a non-empty lower-case
alphanumeric string that is not all digits -/
def LSeg.wf : LSeg → Bool
  | .num _ => true
  | .str s => !s.isEmpty && s.all lowerAlnum && !s.all Char.isDigit

/-- what every constructed value satisfies (`construct_wellFormed`) -/
def wellFormed (r : Raw) : Bool :=
  !r.release.isEmpty &&
  match r.loc with
  | none => true
  | some l => !l.isEmpty && l.all LSeg.wf

theorem seg_text (seg : LSeg) (h : seg.wf = true) :
    seg.text ≠ [] ∧ (∀ c ∈ seg.text, lowerAlnum c = true) ∧ localSeg seg.text = seg := by
  cases seg with
  | num n =>
    refine ⟨natStr_ne_nil n, fun c hc => digit_lowerAlnum c (natStr_digit n c hc), ?_⟩
    rw [localSeg, LSeg.text, List.all_eq_true.2 (natStr_digit n), if_pos rfl, pyInt_natStr]
  | str s =>
    simp only [LSeg.wf, Bool.and_eq_true, Bool.not_eq_true', List.all_eq_true] at h
    obtain ⟨⟨h1, h2⟩, h3⟩ := h
    refine ⟨by simpa [LSeg.text] using h1, h2, ?_⟩
    rw [localSeg, LSeg.text, h3, if_neg Bool.false_ne_true,
      List.map_congr_left (g := id) fun c hc => (lowerAlnum_facts c (h2 c hc)).2.1, List.map_id]

theorem loc_group (loc : Option (List LSeg))
    (h : ∀ l, loc = some l → l ≠ [] ∧ ∀ seg ∈ l, seg.wf = true) :
    localGroup (locStr loc) = (loc, []) := by
  rcases loc with _ | _ | ⟨x, xs⟩
  · rfl
  · exact absurd rfl (h [] rfl).1
  · have hw := fun s hs => seg_text s ((h (x :: xs) rfl).2 s hs)
    have hal := fun (s : LSeg) hs c hc => (lowerAlnum_facts c ((hw s hs).2.1 c hc)).1
    have hx := hw x List.mem_cons_self
    have htd := takeWhile_append_headNot isAlnum x.text _ (hal x List.mem_cons_self)
      (headNot_parts isAlnum '.' rfl (xs.map LSeg.text) [] rfl)
    have hruns := sepRuns_parts isSep isAlnum '.' rfl rfl (xs.map LSeg.text) (fun p hp => by
      obtain ⟨seg, hs, rfl⟩ := List.mem_map.1 hp
      exact ⟨(hw seg (List.mem_cons_of_mem _ hs)).1, hal seg (List.mem_cons_of_mem _ hs)⟩)
      [] rfl rfl
    have hmap : ((x :: xs).map LSeg.text).map localSeg = x :: xs := by
      have : ∀ s ∈ x :: xs, (localSeg ∘ LSeg.text) s = id s := fun s hs => (hw s hs).2.2
      rw [List.map_map, List.map_congr_left this, List.map_id]
    rw [List.append_nil] at htd hruns
    rw [locStr, List.map_cons, join_cons, localGroup, htd.1, htd.2, hruns, ← hmap]
    cases hxt : x.text with
    | nil => exact absurd hxt hx.1
    | cons c cs => rw [List.map_cons (f := LSeg.text), hxt]

/-! `t` stands for the local version part: all that matters of it is that it is empty or begins
with `+`. -/

theorem locStr_head (loc : Option (List LSeg)) : locStr loc = [] ∨ ∃ u, locStr loc = '+' :: u := by
  rcases loc with _ | _ | ⟨x, xs⟩
  · exact .inl rfl
  · exact .inl rfl
  · exact .inr ⟨_, rfl⟩

section
variable (t : List Char) (ht : t = [] ∨ ∃ u, t = '+' :: u)
include ht
attribute [local simp] letterGroup postGroup isSep firstAlt litCI preLits postLits devLits

/-- what follows the release in `str r` begins with a letter, with `.` and a letter, or with `+`, or
is empty: the release loop stops there, there is no epoch mark, and unless it is empty it is not
all digits and dots -/
theorem tail_facts (pre : Option (PreL × Nat)) (post dev : Option Nat) :
    headNot Char.isDigit (preStr pre ++ (postStr post ++ (devStr dev ++ t))) = true ∧
    stops (· == '.') Char.isDigit (preStr pre ++ (postStr post ++ (devStr dev ++ t))) = true ∧
    ((preStr pre ++ (postStr post ++ (devStr dev ++ t))).head? == some '!') = false ∧
    ((pre = none ∧ post = none ∧ dev = none ∧ t = []) ∨
      (preStr pre ++ (postStr post ++ (devStr dev ++ t))).all (fun c => c == '.' || c.isDigit) =
        false) := by
  rcases pre with _ | ⟨l, n⟩
  · cases post with
    | some n => exact ⟨rfl, rfl, rfl, .inr rfl⟩
    | none =>
      cases dev with
      | some n => exact ⟨rfl, rfl, rfl, .inr rfl⟩
      | none =>
        rcases ht with rfl | ⟨u, rfl⟩
        · exact ⟨rfl, rfl, rfl, .inl ⟨rfl, rfl, rfl, rfl⟩⟩
        · exact ⟨rfl, rfl, rfl, .inr rfl⟩
  · cases l <;> exact ⟨rfl, rfl, rfl, .inr rfl⟩

/-- the `pre` group: a present pre-release is read back through the first alternative that matches
(`a`, `b`, `rc`: the longer `alpha`, `beta` fail at the digit); each later group begins with `.p`,
`.d` or `+`, which no alternative matches -/
theorem pre_stage (pre : Option (PreL × Nat)) (post dev : Option Nat) :
    ∃ g, letterGroup preLits (preStr pre ++ (postStr post ++ (devStr dev ++ t))) =
        (g, postStr post ++ (devStr dev ++ t)) ∧
      g.map (fun p => (preOfLit p.1, pyInt p.2)) = pre := by
  rcases pre with _ | ⟨l, n⟩
  · refine ⟨none, ?_, rfl⟩
    cases post with
    | some n => rfl
    | none =>
      cases dev with
      | some n => rfl
      | none => rcases ht with rfl | ⟨u, rfl⟩ <;> rfl
  · have hdig := digits_natStr n (postStr post ++ (devStr dev ++ t))
      (tail_facts t ht none post dev).1
    have hf := fun p ps => litCI_natStr p ps n (postStr post ++ (devStr dev ++ t))
    refine ⟨some (l.text, natStr n), ?_, by rw [Option.map_some, pyInt_natStr]; cases l <;> rfl⟩
    cases l <;> simp [preStr, PreL.text, optSep_cons, hf, hdig]

theorem post_stage (post dev : Option Nat) :
    postGroup (postStr post ++ (devStr dev ++ t)) = (post, devStr dev ++ t) := by
  cases post with
  | some n =>
    simp [postStr, optSep_cons, pyInt_natStr,
      digits_natStr n (devStr dev ++ t) (tail_facts t ht none none dev).1]
  | none =>
    cases dev with
    | some n => rfl
    | none => rcases ht with rfl | ⟨u, rfl⟩ <;> rfl

theorem dev_stage (dev : Option Nat) :
    ∃ g, letterGroup devLits (devStr dev ++ t) = (g, t) ∧ g.map (fun p => pyInt p.2) = dev := by
  cases dev with
  | some n =>
    refine ⟨some ("dev".toList, natStr n), ?_, by rw [Option.map_some, pyInt_natStr]⟩
    simp [devStr, optSep_cons, digits_natStr n t (tail_facts t ht none none none).1]
  | none =>
    refine ⟨none, ?_, rfl⟩
    rcases ht with rfl | ⟨u, rfl⟩ <;> rfl

end

/-- release and suffixes of `str r` -/
def relStr (r : Raw) : List Char :=
  join ['.'] (r.release.map natStr) ++
    (preStr r.pre ++ (postStr r.post ++ (devStr r.dev ++ locStr r.loc)))

theorem wellFormed_iff (r : Raw) : wellFormed r = true ↔
    r.release ≠ [] ∧ ∀ l, r.loc = some l → l ≠ [] ∧ ∀ seg ∈ l, seg.wf = true := by
  rw [wellFormed, Bool.and_eq_true, Bool.not_eq_true', List.isEmpty_eq_false_iff]
  cases r.loc <;> simp

theorem all_join (p : Char → Bool) (hp : p '.' = true) (ps : List (List Char))
    (h : ∀ q ∈ ps, q.all p = true) : (join ['.'] ps).all p = true := by
  cases ps with
  | nil => rfl
  | cons x xs =>
    rw [join_cons, List.all_append, h x List.mem_cons_self, Bool.true_and, List.all_flatten,
      List.all_map, List.all_eq_true]
    intro q hq
    simp only [Function.comp, List.all_cons, hp, Bool.true_and, h q (List.mem_cons_of_mem _ hq)]

theorem splitOnChar_eq (d : Char) (s : List Char) : splitOnChar d s = Text.Str.splitChar d s := by
  induction s with
  | nil => rfl
  | cons c cs ih =>
    simp only [splitOnChar, Text.Str.splitChar, ih, beq_iff_eq]
    cases Text.Str.splitChar d cs <;> rfl

theorem join_eq (sep : List Char) (ps : List (List Char)) : join sep ps = Text.Str.join sep ps := by
  induction ps with
  | nil => rfl
  | cons p ps ih =>
    cases ps with
    | nil => rfl
    | cons q qs => rw [join, ih, Text.Str.join]

section
variable (r : Raw) (h : wellFormed r = true)
include h

theorem wf_release : ∃ x xs, r.release = x :: xs :=
  List.exists_cons_of_ne_nil ((wellFormed_iff r).1 h).1

theorem relStr_head :
    ∃ x t, relStr r = natStr x ++ t ∧
      headNot Char.isDigit t = true ∧ (t.head? == some '!') = false := by
  obtain ⟨x, xs, hrel⟩ := wf_release r h
  obtain ⟨tf1, _, tf3, _⟩ := tail_facts _ (locStr_head r.loc) r.pre r.post r.dev
  refine ⟨x, _, ?_, headNot_parts _ '.' rfl (xs.map natStr) _ tf1, ?_⟩
  · rw [relStr, hrel, List.map_cons, join_cons, List.append_assoc]
  · cases xs with
    | nil => exact tf3
    | cons _ _ => rfl

theorem regexRest_relStr (ep : Nat) :
    regexRest ep (relStr r) = some { r with epoch := ep } := by
  obtain ⟨x, xs, hrel⟩ := wf_release r h
  have hloc := loc_group r.loc ((wellFormed_iff r).1 h).2
  obtain ⟨e, rel, pre, post, dev, loc⟩ := r
  subst hrel
  obtain ⟨tf1, tf2, _, _⟩ := tail_facts _ (locStr_head loc) pre post dev
  obtain ⟨g1, hp1, hp2⟩ := pre_stage _ (locStr_head loc) pre post dev
  obtain ⟨g3, hd1, hd2⟩ := dev_stage _ (locStr_head loc) dev
  have hruns := sepRuns_parts (· == '.') Char.isDigit '.' rfl rfl _ (natStr_parts xs) _ tf1 tf2
  have hdig := digits_append (natStr x) _ (natStr_digit x)
    (headNot_parts _ '.' rfl (xs.map natStr) _ tf1)
  -- the stages of `regexRest` in the order of the text: each of `hdig`, `hruns`, `hp1`, `post_stage`,
  -- `hd1`, `hloc` rewrites one `let` to the group it reads and the text it leaves to the next
  simp only [relStr, List.map_cons, join_cons, List.append_assoc, regexRest, hdig,
    List.isEmpty_eq_false_iff.2 (natStr_ne_nil x), Bool.false_eq_true, ↓reduceIte, hruns, hp1,
    post_stage _ (locStr_head loc), hd1, hloc, List.dropWhile_nil, List.isEmpty_nil]
  simp only [hp2, hd2, pyInt_natStr, map_pyInt_natStr]

theorem regexBody_str : regexBody (str r) = some r := by
  rw [str_eq r, ← relStr, epochStr, regexBody]
  split
  · rw [List.append_assoc, List.singleton_append,
      digits_append _ ('!' :: relStr r) (natStr_digit _) rfl]
    simp only [List.isEmpty_eq_false_iff.2 (natStr_ne_nil r.epoch), List.head?_cons,
      beq_self_eq_true, Bool.not_false, Bool.and_self, ↓reduceIte, List.tail_cons, pyInt_natStr]
    exact regexRest_relStr r h r.epoch
  · rename_i he
    obtain ⟨x, t, hrs, ht1, hb⟩ := relStr_head r h
    rw [List.nil_append, hrs, digits_append _ t (natStr_digit x) ht1]
    simp only [hb, Bool.and_false, Bool.false_eq_true, ↓reduceIte]
    rw [← hrs, regexRest_relStr r h 0, ← (by simpa using he : r.epoch = 0)]

theorem str_head :
    ∃ d rest, str r = d :: rest ∧ d.isDigit = true := by
  rw [str_eq r, ← relStr, epochStr]
  split
  · obtain ⟨d, ds, hn, hd⟩ := natStr_cons r.epoch
    exact ⟨d, _, by rw [hn]; rfl, hd⟩
  · obtain ⟨x, t, hrs, _⟩ := relStr_head r h
    obtain ⟨d, ds, hn, hd⟩ := natStr_cons x
    exact ⟨d, _, by rw [hrs, hn]; rfl, hd⟩

theorem regexParse_str : regexParse (str r) = some r := by
  obtain ⟨d, rest, hs, hd⟩ := str_head r h
  obtain ⟨_, h1, h2, _⟩ := lowerAlnum_facts d (digit_lowerAlnum d hd)
  rw [regexParse, hs, List.dropWhile_cons_of_neg (by rw [h2]; exact Bool.false_ne_true), optV, h1,
    digit_ne d 'v' hd rfl, if_neg Bool.false_ne_true, ← hs]
  exact regexBody_str r h

theorem str_noSpace :
    (str r).all (fun c => !isSpace c) = true := by
  have hl : ∀ s : List Char, (∀ c ∈ s, lowerAlnum c = true) → s.all (fun c => !isSpace c) = true :=
    fun s hs => List.all_eq_true.2 fun c hc => by rw [(lowerAlnum_facts c (hs c hc)).2.2.1]; rfl
  have hn := fun n => hl _ fun c hc => digit_lowerAlnum c (natStr_digit n c hc)
  have hloc := ((wellFormed_iff r).1 h).2
  obtain ⟨e, rel, pre, post, dev, loc⟩ := r
  rw [str_eq]
  simp only [List.all_append, Bool.and_eq_true]
  refine ⟨?_, all_join _ rfl _ ?_, ?_, ?_, ?_, ?_⟩
  · unfold epochStr
    split
    · rw [List.all_append, hn]; rfl
    · rfl
  · intro q hq
    obtain ⟨n, _, rfl⟩ := List.mem_map.1 hq
    exact hn n
  · rcases pre with _ | ⟨l, n⟩
    · rfl
    · rw [preStr, List.all_append, hn, Bool.and_true]; cases l <;> rfl
  · cases post with
    | none => rfl
    | some n => rw [postStr, List.all_append, hn]; rfl
  · cases dev with
    | none => rfl
    | some n => rw [devStr, List.all_append, hn]; rfl
  · rcases loc with _ | _ | ⟨x, xs⟩
    · rfl
    · rfl
    · rw [locStr, List.all_cons, all_join _ rfl]
      · rfl
      · intro q hq
        obtain ⟨seg, hseg, rfl⟩ := List.mem_map.1 hq
        exact hl _ (seg_text seg ((hloc _ rfl).2 seg hseg)).2.1

theorem normalize_str : normalize (str r) = str r := by
  obtain ⟨d, rest, hs, hd⟩ := str_head r h
  rw [normalize, removeSpaces, List.filter_eq_self.2 (List.all_eq_true.1 (str_noSpace r h)), hs,
    lstripV, List.dropWhile_cons_of_neg]
  rw [digit_ne d 'v' hd rfl, digit_ne d 'V' hd rfl]
  exact Bool.false_ne_true

/-- when `str r` is digits and dots only, `r` is a bare release (no epoch, no suffix, no local
version) and the fast path of `Version.__init__` reads it back -/
theorem pkgVersion_simple
    (hs : (str r).all (fun c => c == '.' || c.isDigit) = true) : pkgVersion (str r) = some r := by
  obtain ⟨hrel, hloc⟩ := (wellFormed_iff r).1 h
  obtain ⟨e, rel, pre, post, dev, loc⟩ := r
  have hs' := hs
  simp only [str_eq] at hs'
  rw [List.all_append, List.all_append, Bool.and_eq_true, Bool.and_eq_true] at hs'
  rcases (tail_facts _ (locStr_head loc) pre post dev).2.2.2 with ⟨rfl, rfl, rfl, hl⟩ | hf
  case inr => cases hf.symm.trans hs'.2.2
  obtain rfl : loc = none := by
    rcases loc with _ | _ | ⟨y, ys⟩
    · rfl
    · exact absurd rfl (hloc [] rfl).1
    · cases hl
  obtain rfl : e = 0 := Decidable.byContradiction fun e0 => by
    rw [epochStr, if_pos (bne_iff_ne.2 e0), List.all_append, Bool.and_comm] at hs'
    cases hs'.1
  have hsplit : splitOnChar '.' (str ⟨0, rel, none, none, none, none⟩) = rel.map natStr := by
    rw [splitOnChar_eq]
    show Text.Str.splitChar '.' (join ['.'] (rel.map natStr)) = _
    rw [join_eq]
    exact Text.Str.splitChar_join (mt List.map_eq_nil_iff.1 hrel) fun q hq hc => by
      cases (natStr_parts rel q hq).2 _ hc
  have hany : (rel.map natStr).any List.isEmpty = false :=
    List.any_eq_false.2 fun q hq => by simp [(natStr_parts rel q hq).1]
  rw [pkgVersion, if_pos hs]
  simp only [hsplit, hany, Bool.false_eq_true, ↓reduceIte, map_pyInt_natStr]

end

/-- C11: `PypiVersion(str(v)).value` has exactly the fields of `v.value`, for every well-formed
value. -/
theorem str_roundtrip (r : Raw) (h : wellFormed r = true) : construct (str r) = .ok r := by
  rw [construct, normalize_str r h]
  by_cases hs : (str r).all (fun c => c == '.' || c.isDigit) = true
  · rw [pkgVersion_simple r h hs]
  · rw [pkgVersion, if_neg hs, regexParse_str r h]

example : wellFormed ⟨1, [1, 0], some (.rc, 2), some 3, some 4, some [.str "ubuntu".toList, .num 1]⟩ = true := by
  decide

theorem mem_takeWhile (p : Char → Bool) (l : List Char) : ∀ c ∈ l.takeWhile p, p c = true :=
  List.all_eq_true.1 List.all_takeWhile

theorem sepRuns_wf (sep body : Char → Bool) (s : List Char) :
    ∀ p ∈ (sepRuns sep body s).1, p ≠ [] ∧ ∀ c ∈ p, body c = true := by
  fun_induction sepRuns sep body s with
  | case1 => simp
  | case2 c r hs ht => simp
  | case3 c r hs x xs ht res ih =>
    intro p hp
    rcases List.mem_cons.1 hp with rfl | hp
    · exact ⟨List.cons_ne_nil _ _, ht ▸ mem_takeWhile body r⟩
    · exact ih p hp
  | case4 c r hs => simp

theorem alnum_lower (c : Char) (h : isAlnum c = true) :
    lowerAlnum c.toLower = true ∧ c.toLower.isDigit = c.isDigit := by
  cases hu : c.isUpper with
  | false =>
    rw [isAlnum, Char.isAlphanum, Char.isAlpha, hu, Bool.false_or, Bool.or_comm] at h
    rw [toLower_of_not_upper hu]
    exact ⟨h, rfl⟩
  | true =>
    have := toLower_of_upper hu
    rw [isUpper_iff] at hu
    rw [lowerAlnum, Bool.or_eq_true, Bool.eq_iff_iff (b := c.isDigit), isLower_iff, isDigit_iff,
      isDigit_iff]
    omega

theorem localSeg_wf (part : List Char) (h1 : part ≠ []) (h2 : ∀ c ∈ part, isAlnum c = true) :
    (localSeg part).wf = true := by
  rw [localSeg]
  split
  · rfl
  · rename_i hnd
    simp only [LSeg.wf, Bool.and_eq_true, Bool.not_eq_true', List.all_eq_true, List.mem_map]
    refine ⟨⟨by simpa using h1, ?_⟩, ?_⟩
    · rintro c ⟨d, hd, rfl⟩
      exact (alnum_lower d (h2 d hd)).1
    · rw [← Bool.not_eq_true, List.all_eq_true]
      refine fun hm => hnd (List.all_eq_true.2 fun d hd => ?_)
      rw [← (alnum_lower d (h2 d hd)).2]
      exact hm _ (List.mem_map.2 ⟨d, hd, rfl⟩)

theorem localGroup_wf (s : List Char) :
    ∀ l, (localGroup s).1 = some l → l ≠ [] ∧ ∀ seg ∈ l, seg.wf = true := by
  intro l hl
  unfold localGroup at hl
  split at hl
  · rename_i r
    split at hl
    · cases hl
    · rename_i x xs ht
      cases hl
      refine ⟨List.cons_ne_nil _ _, fun seg hseg => ?_⟩
      obtain ⟨p, hp, rfl⟩ := List.mem_map.1 hseg
      rcases List.mem_cons.1 hp with rfl | hp
      · exact localSeg_wf _ (List.cons_ne_nil _ _) (ht ▸ mem_takeWhile isAlnum r)
      · have := sepRuns_wf isSep isAlnum _ p hp
        exact localSeg_wf p this.1 this.2
  · cases hl

theorem regexRest_wf (ep : Nat) (t : List Char) (r : Raw) (h : regexRest ep t = some r) :
    wellFormed r = true := by
  simp only [regexRest] at h
  split at h
  · cases h
  · split at h
    · cases h
      exact (wellFormed_iff _).2 ⟨List.cons_ne_nil _ _, localGroup_wf _⟩
    · cases h

theorem construct_wellFormed (s : List Char) (r : Raw) (h : construct s = .ok r) :
    wellFormed r = true := by
  simp only [construct] at h
  split at h
  · rename_i r' hr
    cases h
    simp only [pkgVersion] at hr
    split at hr
    · split at hr
      · cases hr
      · cases hr
        cases hsp : splitOnChar '.' (normalize s) with
        | nil => exact absurd (splitOnChar_eq _ _ ▸ hsp) (Text.Str.splitChar_ne_nil _ _)
        | cons _ _ => rfl
    · simp only [regexParse, regexBody] at hr
      split at hr <;> exact regexRest_wf _ _ _ hr
  · cases h

/-- distinct `Raw` values can be `==` (trailing zeros of the release only): `1.0 == 1.0.0` -/
example : vercmp ⟨0, [1, 0], none, none, none, none⟩ ⟨0, [1, 0, 0], none, none, none, none⟩ = .eq := by
  decide

/-! ### findings (not law violations)

`Version.normalize` removes ALL white space and every leading `v`/`V` before `packaging` sees
the text, so `PypiVersion` accepts spellings that `packaging.version.Version` itself rejects. -/

/-- `PypiVersion("vV 1 . 0 rc")` is the version `1.0rc0` … -/
theorem lenient_normalize :
    pkgVersion (normalize "vV 1 . 0 rc".toList) =
      some ⟨0, [1, 0], some (.rc, 0), none, none, none⟩ := by decide +kernel

/-- … although `packaging.version.Version("1 . 0")` and `Version("vV1")` are `InvalidVersion` -/
theorem packaging_rejects : pkgVersion "1 . 0".toList = none ∧ pkgVersion "vV1".toList = none := by
  decide +kernel

/-- the pattern itself accepts a dangling separator after a pre/post/dev letter:
`Version("1.0a.") == Version("1.0a0")`, `Version("1.0post-") == Version("1.0.post0")` -/
theorem dangling_separator :
    pkgVersion "1.0a.".toList = some ⟨0, [1, 0], some (.a, 0), none, none, none⟩ ∧
    pkgVersion "1.0post-".toList = some ⟨0, [1, 0], none, some 0, none, none⟩ := by
  decide +kernel

end Univers.Pypi
