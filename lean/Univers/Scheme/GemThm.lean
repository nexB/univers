/-
Theorems for the `gem` scheme: the refinement `vercmp = keyCmp ∘ key`, the comparator laws,
operator lawfulness (C02), eq/hash agreement (C12), `str` round trip (C11), and the
`bump` / `release` facts needed by C18.
-/
import Univers.Scheme.Gem
import Univers.Scheme.GemSpec
import Univers.Basic.PadLexEq
import Univers.Basic.Digits
import Univers.Text.Str
import Univers.Py.AttrsThm

namespace Univers.Gem

open Std Univers

theorem splitLoop_cons (l ns : List Seg) (s : Seg) (ss : List Seg) :
    splitLoop l ns (s :: ss) = (ns, s :: ss ++ l) := by
  induction l generalizing ss with
  | nil => rw [splitLoop, List.append_nil]
  | cons x xs ih => cases x <;> simp [splitLoop, ih]

theorem splitLoop_nil (l ns : List Seg) :
    splitLoop l ns [] = (ns ++ l.takeWhile Seg.isNum, l.dropWhile Seg.isNum) := by
  induction l generalizing ns with
  | nil => simp [splitLoop]
  | cons x xs ih =>
    cases x with
    | num n => simp [splitLoop, ih, Seg.isNum, List.takeWhile_cons, List.dropWhile_cons]
    | str s => simp [splitLoop, splitLoop_cons, Seg.isNum]

theorem splitSegments_eq (l : List Seg) :
    splitSegments l = (l.takeWhile Seg.isNum, l.dropWhile Seg.isNum) := by
  rw [splitSegments, splitLoop_nil, List.nil_append]

theorem dropTrailingZeros_eq (l : List Seg) : dropTrailingZeros l = stripZeros l := by
  induction l with
  | nil => rfl
  | cons x xs ih =>
    have ih' : (xs.reverse.dropWhile (fun s => s == Seg.num 0)) = (stripZeros xs).reverse := by
      rw [← ih]; simp [dropTrailingZeros]
    simp only [dropTrailingZeros, List.reverse_cons, List.dropWhile_append, ih', stripZeros]
    cases h : stripZeros xs with
    | nil =>
      by_cases hx : x = .num 0 <;> simp [hx]
    | cons y ys => simp

theorem canon_eq_key (r : Raw) : r.canon = key r := by
  simp only [Raw.canon, canonicalOf, splitSegments_eq, dropTrailingZeros_eq, key]

theorem stripZeros_eq_stripTrail (l : List Seg) : stripZeros l = stripTrail (.num 0) l := by
  induction l with
  | nil => rfl
  | cons x xs ih =>
    rw [stripZeros, stripTrail, ← ih]
    cases stripZeros xs <;> simp

theorem cmpSeg_eq_segOrd (a b : Seg) : cmpSeg a b = segOrd a b := by
  cases a <;> cases b <;> rfl

theorem segOrd_eq_imp (a b : Seg) (h : segOrd a b = .eq) : a = b := by
  cases a <;> cases b <;> simp only [segOrd] at h
  · rw [LawfulEqCmp.eq_of_compare h]
  · exact absurd h (by decide)
  · exact absurd h (by decide)
  · rw [lexList_eq_eq (fun _ _ => LawfulEqCmp.eq_of_compare) _ _ h]

theorem segOrd_self (a : Seg) : segOrd a a = .eq := ReflCmp.compare_self

theorem cmpLoop_eq_padLex (l r : List Seg) (n i : Nat) (hn : max l.length r.length ≤ n) :
    cmpLoop l r n i = padLex segOrd (.num 0) (l.drop i) (r.drop i) := by
  fun_induction cmpLoop l r n i with
  | case1 i hi lhs rhs heq ih =>
    rw [padLex_drop segOrd _ (segOrd_self _), ← ih,
      show l.getD i (.num 0) = r.getD i (.num 0) from eq_of_beq heq, segOrd_self]
    rfl
  | case2 i hi lhs rhs hne =>
    rw [padLex_drop segOrd _ (segOrd_self _), cmpSeg_eq_segOrd]
    have hne' : segOrd lhs rhs ≠ .eq := fun h => by simp [segOrd_eq_imp _ _ h] at hne
    revert hne'
    cases segOrd lhs rhs <;> simp [Ordering.then]
  | case3 i hi =>
    rw [List.drop_eq_nil_of_le (by omega), List.drop_eq_nil_of_le (by omega), padLex]

/-- REFINEMENT (C03): `GemVersion.__cmp__` is the order of the spec on the keys -/
theorem vercmp_eq_key (a b : Raw) : vercmp a b = keyCmp (key a) (key b) := by
  have hrefl : key a = key b → .eq = keyCmp (key a) (key b) := fun h => by
    rw [h]; exact (ReflCmp.compare_self (cmp := keyCmp)).symm
  unfold vercmp
  split
  · rename_i hv
    exact hrefl (by unfold key Raw.segs; rw [eq_of_beq hv])
  · dsimp only
    split
    · rename_i hc
      exact hrefl (by rw [← canon_eq_key, ← canon_eq_key, eq_of_beq hc])
    · rw [cmpLoop_eq_padLex _ _ _ _ (Nat.le_refl _), canon_eq_key, canon_eq_key]; rfl

instance : OrientedCmp vercmp where
  eq_swap := by
    intro a b
    simp only [vercmp_eq_key]
    exact OrientedCmp.eq_swap

instance : TransCmp vercmp where
  isLE_trans := by
    intro a b c
    simp only [vercmp_eq_key]
    exact TransCmp.isLE_trans

/-- a key has no trailing zero in either part, hence none at its end -/
theorem stripTrail_key (r : Raw) : stripTrail (.num 0) (key r) = key r := by
  rw [key, stripZeros_eq_stripTrail, stripZeros_eq_stripTrail, stripTrail_append, stripTrail_idem,
    stripTrail_idem]
  split
  · rename_i h; rw [h, List.append_nil]
  · rfl

theorem keyCmp_eq_iff (a b : Raw) : keyCmp (key a) (key b) = .eq ↔ key a = key b := by
  constructor
  · intro h
    have := padLex_eq_stripTrail_id segOrd_eq_imp _ _ h
    rwa [stripTrail_key, stripTrail_key] at this
  · intro h; rw [h]; exact ReflCmp.compare_self (cmp := padLex segOrd (.num 0))

theorem vercmp_eq_iff (a b : Raw) : vercmp a b = .eq ↔ a.canon = b.canon := by
  rw [vercmp_eq_key, keyCmp_eq_iff, canon_eq_key, canon_eq_key]

/-! ### C02, C12 -/

theorem canon_beq (a b : Raw) : (a.canon == b.canon) = (vercmp a b == .eq) := by
  rw [Bool.eq_iff_iff, beq_iff_eq, beq_iff_eq, vercmp_eq_iff]

theorem valOps_lawful : Lawful valOps vercmp := by
  constructor <;> intro a b <;> simp only [valOps, canon_beq] <;> rfl

theorem verOps_lawful : Lawful verOps vercmp := Py.lawful_attrs valOps_lawful

theorem eq_imp_hash (a b : Raw) : verOps.eq a b = true → hashKey a = hashKey b :=
  fun h => eq_of_beq h

theorem hash_imp_eq (a b : Raw) : hashKey a = hashKey b → verOps.eq a b = true :=
  fun h => beq_iff_eq.mpr h

example : verOps.eq ⟨"1.0".toList⟩ ⟨"1".toList⟩ = true ∧ verOps.eq ⟨"1.0.0".toList⟩ ⟨"1".toList⟩ = true
    ∧ verOps.eq ⟨"1.0.a".toList⟩ ⟨"1.a".toList⟩ = true ∧ verOps.eq ⟨"1.a.0".toList⟩ ⟨"1.a".toList⟩ = true
    ∧ verOps.eq ⟨"1-a".toList⟩ ⟨"1.pre.a".toList⟩ = true ∧ verOps.eq ⟨"1.a1".toList⟩ ⟨"1.a.1".toList⟩ = true
    ∧ verOps.eq ⟨"1.a.0.1".toList⟩ ⟨"1.a.1".toList⟩ = false := by decide +kernel

def noSpace (s : List Char) : Bool := s.all (fun c => !isPySpace c)

/-- what `construct` establishes: the text has no white space and is accepted by `is_correct` -/
def wellFormed (r : Raw) : Bool := noSpace r.original && isCorrect r.original

def WellFormed (r : Raw) : Prop := wellFormed r = true

instance (r : Raw) : Decidable (WellFormed r) := inferInstanceAs (Decidable (_ = true))

example : WellFormed ⟨"1.0.a-b".toList⟩ := by decide +kernel

theorem strip_of_noSpace (s : List Char) (h : noSpace s = true) : strip s = s := by
  have h' : ∀ c ∈ s, ¬ isPySpace c = true := by simpa [noSpace] using h
  have hd : ∀ l : List Char, (∀ c ∈ l, ¬ isPySpace c = true) → l.dropWhile isPySpace = l := by
    intro l hl
    cases l with
    | nil => rfl
    | cons x xs => exact List.dropWhile_cons_of_neg (hl x (by simp))
  rw [strip, hd _ h', hd _ (by simpa using h'), List.reverse_reverse]

theorem noSpace_normalize (s : List Char) : noSpace (normalize s) = true := by
  simp only [noSpace, normalize, List.all_eq_true]
  intro c hc
  exact (List.mem_filter.mp ((List.dropWhile_sublist _).subset hc)).2

theorem wellFormed_iff (r : Raw) :
    WellFormed r ↔ noSpace r.original = true ∧ (r.original = [] ∨ run .d0 r.original = true) := by
  simp only [WellFormed, wellFormed, Bool.and_eq_true]
  refine and_congr_right fun hs => ?_
  rw [isCorrect, strip_of_noSpace _ hs, Bool.or_eq_true, List.isEmpty_iff]

theorem gemVersion_of_wf (r : Raw) (h : WellFormed r) : gemVersion r.original = .ok r := by
  simp only [WellFormed, wellFormed, Bool.and_eq_true] at h
  simp only [gemVersion, h.2, strip_of_noSpace _ h.1, Bool.not_true, Bool.false_eq_true, ↓reduceIte]

theorem construct_wf (s : List Char) (r : Raw) (h : construct s = .ok r) : WellFormed r := by
  simp only [construct, gemVersion] at h
  by_cases hc : isCorrect (normalize s) = true
  · simp only [hc, Bool.not_true, Bool.false_eq_true, ↓reduceIte, Except.ok.injEq] at h
    subst h
    simp only [WellFormed, wellFormed, strip_of_noSpace _ (noSpace_normalize s), noSpace_normalize, hc,
      Bool.and_self]
  · simp [hc] at h

theorem run_d0_head (v : List Char) (h : run .d0 v = true) : ∃ d r, v = d :: r ∧ isDig d = true := by
  cases v with
  | nil => cases h
  | cons d r =>
    refine ⟨d, r, rfl, ?_⟩
    rw [run, step] at h
    by_cases hd : isDig d = true
    · exact hd
    · simp [hd] at h

theorem normalize_of_wf (r : Raw) (h : WellFormed r) : normalize r.original = r.original := by
  obtain ⟨hs, hr⟩ := (wellFormed_iff r).mp h
  have hf : r.original.filter (fun c => !isPySpace c) = r.original :=
    List.filter_eq_self.mpr (by simpa [noSpace] using hs)
  rw [normalize, hf]
  rcases hr with h0 | hr
  · rw [h0]; rfl
  · obtain ⟨c, cs, ho, hd⟩ := run_d0_head _ hr
    rw [ho]
    refine List.dropWhile_cons_of_neg ?_
    intro hv
    simp only [Bool.or_eq_true, beq_iff_eq] at hv
    rcases hv with hv | hv <;> (subst hv; exact absurd hd (by decide))

/-- C11: `construct (str r)` gives back `r`, for every value that `construct` can produce
(`construct_wf`) -/
theorem str_roundtrip (r : Raw) (h : WellFormed r) : construct (str r) = .ok r := by
  have hc : isCorrect r.original = true := by
    simp only [WellFormed, wellFormed, Bool.and_eq_true] at h; exact h.2
  simp only [construct, str, normalize_of_wf r h, hc, gemVersion_of_wf r h, Bool.not_true,
    Bool.false_eq_true, ↓reduceIte]

theorem alnum_not_space (c : Char) (hk : isAlnum c = true) : isPySpace c = false := by
  simp only [isAlnum, isDig, isAlpha, Char.isDigit, Bool.or_eq_true, Bool.and_eq_true,
    decide_eq_true_eq, Char.le_def, UInt32.le_iff_toNat_le, Char.reduceVal, UInt32.reduceToNat] at hk
  simp only [isPySpace, Bool.or_eq_false_iff, Bool.and_eq_false_iff, decide_eq_false_iff_not,
    Char.toNat]
  omega

/-- the characters the automaton of `VERSION_PATTERN` can read -/
def isVerCh (c : Char) : Bool := isAlnum c || c == '.' || c == '-'

theorem step_verCh (s s' : St) (c : Char) (h : step s c = some s') : isVerCh c = true := by
  apply Decidable.byContradiction
  intro hn
  simp only [isVerCh, Bool.or_eq_true, beq_iff_eq, not_or, Bool.not_eq_true] at hn
  obtain ⟨⟨ha, hd⟩, hm⟩ := hn
  have hdg : isDig c = false := by
    simp only [isAlnum, Bool.or_eq_false_iff] at ha; exact ha.1
  cases s <;> simp [step, ha, hd, hm, hdg] at h

theorem verCh_not_space (c : Char) (h : isVerCh c = true) : isPySpace c = false := by
  simp only [isVerCh, Bool.or_eq_true, beq_iff_eq] at h
  rcases h with (h | h) | h
  · exact alnum_not_space c h
  · subst h; decide
  · subst h; decide

theorem run_verCh (s : St) (v : List Char) (h : run s v = true) : ∀ c ∈ v, isVerCh c = true := by
  induction v generalizing s with
  | nil => intro _ hc; cases hc
  | cons a r ih =>
    rw [run] at h
    cases hs : step s a with
    | none => simp [hs] at h
    | some s' =>
      rw [hs] at h
      intro c hc
      rcases List.mem_cons.mp hc with rfl | hc
      · exact step_verCh s s' _ hs
      · exact ih s' h c hc

theorem wf_of_run (v : List Char) (h : run .d0 v = true) : WellFormed ⟨v⟩ := by
  refine (wellFormed_iff _).mpr ⟨?_, Or.inr h⟩
  simp only [noSpace, List.all_eq_true, Bool.not_eq_true']
  exact fun c hc => verCh_not_space c (run_verCh _ v h c hc)

theorem natStr_cons (n : Nat) :
    ∃ c cs, natStr n = c :: cs ∧ isDig c = true ∧ ∀ x ∈ cs, isDig x = true := by
  have hd := toDigits_isDigit n
  cases h : Nat.toDigits 10 n with
  | nil => exact absurd h Nat.toDigits_ne_nil
  | cons c cs =>
    rw [h] at hd
    exact ⟨c, cs, h, hd c List.mem_cons_self, fun x hx => hd x (List.mem_cons_of_mem _ hx)⟩

theorem joinDots_natStr (n : Nat) (ms : List Nat) :
    joinDots ((n :: ms).map natStr) = natStr n ++ ms.flatMap fun m => '.' :: natStr m := by
  induction ms generalizing n with
  | nil => exact (List.append_nil _).symm
  | cons m ms ih =>
    rw [List.map_cons, List.map_cons, joinDots, ← List.map_cons, ih, List.flatMap_cons]
    rfl

theorem scanFrom_digits_append (ds : List Char) (hd : ∀ c ∈ ds, isDig c = true) (acc t : List Char) :
    scanFrom (.digits acc) (ds ++ t) = scanFrom (.digits (acc ++ ds)) t := by
  induction ds generalizing acc with
  | nil => rw [List.nil_append, List.append_nil]
  | cons c cs ih =>
    rw [List.cons_append, scanFrom, if_pos (hd c (by simp)), ih (fun x hx => hd x (by simp [hx])),
      List.append_assoc, List.singleton_append]

theorem scanFrom_natStr (n : Nat) (t : List Char) :
    scanFrom .idle (natStr n ++ t) = scanFrom (.digits (natStr n)) t := by
  obtain ⟨c, cs, h, hc, hcs⟩ := natStr_cons n
  simp only [h, List.cons_append, scanFrom, hc, ↓reduceIte, Run.emit, List.nil_append]
  exact scanFrom_digits_append cs hcs [c] t

theorem scanFrom_dots (acc : List Char) (ms : List Nat) :
    scanFrom (.digits acc) (ms.flatMap fun m => '.' :: natStr m)
      = .num (natOfDigits acc) :: ms.map Seg.num := by
  induction ms generalizing acc with
  | nil => rfl
  | cons m ms ih =>
    rw [List.flatMap_cons, List.cons_append, scanFrom, if_neg (by decide), if_neg (by decide),
      scanFrom_natStr, ih, show natOfDigits (natStr m) = m from Nat.ofDigitChars_ten_toDigits]
    rfl

theorem scan_join (n : Nat) (ms : List Nat) :
    scan (joinDots ((n :: ms).map natStr)) = (n :: ms).map Seg.num := by
  rw [scan, joinDots_natStr, scanFrom_natStr, scanFrom_dots,
    show natOfDigits (natStr n) = n from Nat.ofDigitChars_ten_toDigits]
  rfl

theorem replaceDash_id (s : List Char) (h : '-' ∉ s) : replaceDash s = s := by
  induction s with
  | nil => rfl
  | cons c cs ih =>
    rw [replaceDash, if_neg fun e => h (List.mem_cons.mpr (.inl (eq_of_beq e).symm)),
      ih fun hm => h (List.mem_cons_of_mem _ hm)]

theorem run_natStr {s s' : St} (h0 : ∀ c, isDig c = true → step s c = some s')
    (h1 : ∀ c, isDig c = true → step s' c = some s') (n : Nat) (rest : List Char) :
    run s (natStr n ++ rest) = run s' rest := by
  obtain ⟨c, cs, h, hc, hcs⟩ := natStr_cons n
  rw [h, List.cons_append, run, h0 c hc]
  show run s' (cs ++ rest) = run s' rest
  clear h
  induction cs with
  | nil => rfl
  | cons x xs ih =>
    rw [List.cons_append, run, h1 x (hcs x List.mem_cons_self)]
    exact ih fun y hy => hcs y (List.mem_cons_of_mem _ hy)

theorem step_dig_a (c : Char) (h : isDig c = true) : step .a0 c = some .a ∧ step .a c = some .a := by
  simp [step, isAlnum, h]

theorem run_dots {s : St} (hdot : step s '.' = some .a0) (hacc : accepting s = true) (ms : List Nat) :
    run s (ms.flatMap fun m => '.' :: natStr m) = true := by
  induction ms generalizing s with
  | nil => exact hacc
  | cons m ms ih =>
    rw [List.flatMap_cons, List.cons_append, run, hdot]
    exact (run_natStr (fun c h => (step_dig_a c h).1) (fun c h => (step_dig_a c h).2) m _).trans
      (ih rfl rfl)

theorem wf_join (ns : List Nat) : WellFormed ⟨joinDots (ns.map natStr)⟩ := by
  cases ns with
  | nil => decide
  | cons n ms =>
    refine wf_of_run _ ?_
    rw [joinDots_natStr, run_natStr (s := .d0) (s' := .d) (fun c h => by simp [step, h])
      (fun c h => by simp [step, h])]
    exact run_dots rfl rfl ms

/-- `GemVersion(".".join(str(n) for n in ns))` succeeds and keeps the text -/
theorem gemVersion_join (ns : List Nat) :
    gemVersion (joinDots (ns.map natStr)) = .ok ⟨joinDots (ns.map natStr)⟩ :=
  gemVersion_of_wf _ (wf_join ns)

/-- the empty text counts as `"0"` -/
theorem segs_join (ns : List Nat) :
    (⟨joinDots (ns.map natStr)⟩ : Raw).segs = if ns = [] then [.num 0] else ns.map Seg.num := by
  cases ns with
  | nil => decide
  | cons n ms =>
    have hne : (joinDots ((n :: ms).map natStr)).isEmpty = false := by
      obtain ⟨c, cs, h, _⟩ := natStr_cons n
      rw [joinDots_natStr, h]
      rfl
    have hdash : '-' ∉ joinDots ((n :: ms).map natStr) := by
      have hd : ∀ m, '-' ∉ natStr m := fun m h => absurd (toDigits_isDigit m _ h) (by decide)
      rw [joinDots_natStr]
      simp only [List.mem_append, List.mem_flatMap, List.mem_cons]
      rintro (h | ⟨m, _, h | h⟩)
      · exact hd n h
      · exact absurd h (by decide)
      · exact hd m h
    rw [Raw.segs, Raw.version, hne, if_neg Bool.false_ne_true, replaceDash_id _ hdash, scan_join,
      if_neg (List.cons_ne_nil _ _)]

theorem isPrerelease_join (ns : List Nat) : isPrerelease ⟨joinDots (ns.map natStr)⟩ = false := by
  rw [isPrerelease, segs_join]
  split
  · decide
  · simp [Seg.isNum]

theorem takeWhile_isNum (segs : List Seg) :
    segs.takeWhile Seg.isNum = (leadingNums segs).map Seg.num := by
  induction segs with
  | nil => rfl
  | cons x xs ih => cases x <;> simp [leadingNums, Seg.isNum, List.takeWhile_cons, ih]

theorem leadingNums_map_num (ns : List Nat) : leadingNums (ns.map Seg.num) = ns := by
  induction ns with
  | nil => rfl
  | cons a r ih => simp only [List.map_cons, leadingNums, ih]

theorem key_split (v : Raw) :
    key v = stripZeros ((leadingNums v.segs).map Seg.num) ++ stripZeros (v.segs.dropWhile Seg.isNum) := by
  rw [key, takeWhile_isNum]

theorem key_join (ns : List Nat) :
    key ⟨joinDots (ns.map natStr)⟩ = stripZeros (ns.map Seg.num) := by
  rw [key_split, segs_join]
  by_cases h : ns = []
  · subst h; rfl
  · rw [if_neg h, leadingNums_map_num,
      Text.Str.dropWhile_eq_nil_iff.mpr (by simp [Seg.isNum] : ∀ s ∈ ns.map Seg.num, s.isNum = true),
      stripZeros, List.append_nil]

/-- a version against its numeric head: below it exactly when there is a string segment
(`String < Numeric`, and the head is padded with `0`) -/
theorem keyCmp_numHead (v : Raw) :
    keyCmp (key v) (stripZeros ((leadingNums v.segs).map Seg.num)) =
      if isPrerelease v then .lt else .eq := by
  have h := padLex_append_left segOrd (.num 0) segOrd_self
    (stripZeros ((leadingNums v.segs).map Seg.num)) (stripZeros (v.segs.dropWhile Seg.isNum)) []
  rw [List.append_nil] at h
  rw [keyCmp, key_split, h, stripZeros_eq_stripTrail, padLex_stripTrail _ _ (segOrd_self _), isPrerelease]
  clear h
  induction v.segs with
  | nil => simp [padLex]
  | cons x xs ih =>
    cases x with
    | num n =>
      simp only [List.dropWhile_cons, Seg.isNum, List.any_cons, ↓reduceIte, Bool.not_true, Bool.false_or]
      exact ih
    | str s => simp [Seg.isNum, padLex, segOrd]

theorem takeWhile_dropLast_of_any {α} (p : α → Bool) (l : List α) (h : l.any (fun a => !p a) = true) :
    l.dropLast.takeWhile p = l.takeWhile p := by
  induction l with
  | nil => simp at h
  | cons x xs ih =>
    by_cases hx : p x = true
    · have hxs : xs.any (fun a => !p a) = true := by simpa [hx] using h
      cases xs with
      | nil => simp at hxs
      | cons y ys =>
        rw [List.dropLast_cons_cons, List.takeWhile_cons_of_pos hx, List.takeWhile_cons_of_pos hx,
          ih hxs]
    · cases xs <;> simp [hx]

theorem popLoop_eq (fuel : Nat) (segs : List Seg) (h : segs.length ≤ fuel) :
    popLoop fuel segs = segs.takeWhile Seg.isNum := by
  induction fuel generalizing segs with
  | zero =>
    have : segs = [] := List.eq_nil_of_length_eq_zero (by omega)
    subst this; rfl
  | succ k ih =>
    rw [popLoop]
    by_cases ha : segs.any (fun s => !s.isNum) = true
    · rw [if_pos ha, ih _ (by simp [List.length_dropLast]; omega), takeWhile_dropLast_of_any _ _ ha]
    · have : ∀ s ∈ segs, s.isNum = true := by simpa using ha
      rw [if_neg ha]
      simpa using (List.takeWhile_append_of_pos (l₂ := []) this).symm

theorem popWhileStr_eq (segs : List Seg) : popWhileStr segs = (leadingNums segs).map Seg.num := by
  rw [popWhileStr, popLoop_eq _ _ (Nat.le_refl _), takeWhile_isNum]

theorem release_eq (v : Raw) :
    release v = .ok (if isPrerelease v then ⟨joinDots ((leadingNums v.segs).map natStr)⟩ else v) := by
  unfold release
  by_cases h : isPrerelease v = true
  · have : (popWhileStr v.segs).map Seg.text = (leadingNums v.segs).map natStr := by
      rw [popWhileStr_eq, List.map_map]; rfl
    simp only [h, ↓reduceIte, this, gemVersion_join]
  · simp [h]

theorem release_ok (v : Raw) : ∃ r, release v = .ok r := ⟨_, release_eq v⟩

theorem release_self (v : Raw) (h : isPrerelease v = false) : release v = .ok v := by
  rw [release_eq, h]; rfl

/-- C18: the release has no pre-release part -/
theorem isPrerelease_release (v r : Raw) (h : release v = .ok r) : isPrerelease r = false := by
  rw [release_eq, Except.ok.injEq] at h
  subst h
  split
  · exact isPrerelease_join _
  · rename_i hp; simpa using hp

/-- C18: a version is not above its release -/
theorem vercmp_release (v r : Raw) (h : release v = .ok r) : vercmp v r ≠ .gt := by
  rw [release_eq, Except.ok.injEq] at h
  subst h
  split
  · rename_i hp
    rw [vercmp_eq_key, key_join, keyCmp_numHead, if_pos hp]; decide
  · rw [ReflCmp.compare_self (cmp := vercmp)]; decide

theorem exists_concat {α} (l : List α) (h : l ≠ []) : ∃ p x, l = p ++ [x] :=
  ⟨_, _, (List.dropLast_concat_getLast h).symm⟩

theorem incrLast_concat (p : List Nat) (x : Nat) : incrLast (p ++ [x]) = some (p ++ [x + 1]) := by
  induction p with
  | nil => rfl
  | cons a p ih =>
    cases hp : p ++ [x] with
    | nil => simp at hp
    | cons b r =>
      rw [List.cons_append, hp, incrLast, ← hp, ih]; rfl

/-- `segments.pop()` when there are two or more items, then `segments[-1] += 1`: a non-empty list
is `p ++ x :: q` with `q` of length ≤ 1, and `p ++ [x + 1]` is left -/
theorem incrLast_trim (l : List Nat) (h : l ≠ []) : ∃ p x q, l = p ++ x :: q ∧
    incrLast (if l.length > 1 then l.dropLast else l) = some (p ++ [x + 1]) := by
  obtain ⟨l', y, rfl⟩ := exists_concat l h
  by_cases h' : l' = []
  · subst h'
    exact ⟨[], y, [], rfl, rfl⟩
  · obtain ⟨p, x, rfl⟩ := exists_concat l' h'
    refine ⟨p, x, [y], List.append_assoc .., ?_⟩
    rw [if_pos (by simp), List.dropLast_concat, incrLast_concat]

theorem bump_of_leading (v : Raw) (h : leadingNums v.segs ≠ []) : ∃ p x q,
    leadingNums v.segs = p ++ x :: q ∧ bump v = .ok ⟨joinDots ((p ++ [x + 1]).map natStr)⟩ := by
  obtain ⟨p, x, q, hl, hi⟩ := incrLast_trim _ h
  refine ⟨p, x, q, hl, ?_⟩
  unfold bump
  simp only [hi]
  exact gemVersion_join _

theorem bump_eq (v b : Raw) (h : bump v = .ok b) :
    ∃ p x q, leadingNums v.segs = p ++ x :: q ∧ b = ⟨joinDots ((p ++ [x + 1]).map natStr)⟩ := by
  by_cases hne : leadingNums v.segs = []
  · unfold bump at h
    rw [hne] at h
    cases h
  · obtain ⟨p, x, q, hl, hb⟩ := bump_of_leading v hne
    exact ⟨p, x, q, hl, Except.ok.inj (h.symm.trans hb)⟩

/-- C18: a version is strictly below its bump: it is not above its numeric head, where the bump
is larger at the position it incremented -/
theorem vercmp_bump (v b : Raw) (h : bump v = .ok b) : vercmp v b = .lt := by
  obtain ⟨p, x, q, hn, hb⟩ := bump_eq v b h
  subst hb
  have h1 : (keyCmp (key v) (stripZeros ((leadingNums v.segs).map Seg.num))).isLE := by
    rw [keyCmp_numHead]; split <;> rfl
  have h2 : keyCmp (stripZeros ((leadingNums v.segs).map Seg.num))
      (stripZeros ((p ++ [x + 1]).map Seg.num)) = .lt := by
    have hd := segOrd_self (.num 0)
    rw [keyCmp, stripZeros_eq_stripTrail, stripZeros_eq_stripTrail, padLex_stripTrail _ _ hd,
      OrientedCmp.eq_swap (cmp := padLex segOrd (.num 0)), padLex_stripTrail _ _ hd,
      ← OrientedCmp.eq_swap (cmp := padLex segOrd (.num 0)), hn, List.map_append, List.map_append,
      padLex_append_left _ _ segOrd_self, List.map_cons, List.map_cons, padLex, segOrd,
      Nat.compare_eq_lt.mpr (Nat.lt_succ_self x)]
    rfl
  rw [vercmp_eq_key, key_join]
  exact TransCmp.lt_of_isLE_of_lt h1 h2

theorem scanFrom_digits_head (x acc : List Char) : ∃ n t, scanFrom (.digits acc) x = .num n :: t := by
  induction x generalizing acc with
  | nil => exact ⟨_, [], rfl⟩
  | cons c cs ih =>
    rw [scanFrom]
    split
    · exact ih _
    · split <;> exact ⟨_, _, rfl⟩

theorem leadingNums_ne_nil (v : Raw) (h : WellFormed v) : leadingNums v.segs ≠ [] := by
  obtain ⟨_, h0 | hr⟩ := (wellFormed_iff v).mp h
  · have : v = ⟨[]⟩ := by cases v; simp_all
    subst this; decide
  · obtain ⟨c, cs, ho, hd⟩ := run_d0_head _ hr
    have hdash : (c == '-') = false :=
      beq_eq_false_iff_ne.mpr (fun h' => by subst h'; exact absurd hd (by decide))
    obtain ⟨n, t, hs⟩ := scanFrom_digits_head (replaceDash cs) [c]
    simp [Raw.segs, Raw.version, ho, replaceDash, hdash, scan, scanFrom, hd, Run.emit, hs, leadingNums]

theorem bump_ok (v : Raw) (h : WellFormed v) : ∃ b, bump v = .ok b :=
  let ⟨_, _, _, _, hb⟩ := bump_of_leading v (leadingNums_ne_nil v h)
  ⟨_, hb⟩

example : bump ⟨"5.3.1.4-2".toList⟩ = .ok ⟨"5.3.2".toList⟩ ∧ release ⟨"1.2.0.a".toList⟩ = .ok ⟨"1.2.0".toList⟩
    ∧ bump ⟨"1.0.a".toList⟩ = .ok ⟨"2".toList⟩ := ⟨rfl, rfl, rfl⟩

end Univers.Gem
