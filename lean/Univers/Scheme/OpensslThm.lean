/-
Theorems for `legacy_openssl` and `openssl`: parse and print of the legacy form, the order of the
two-epoch key (every legacy version below every 3.x version), operators, hash, round trip.
-/
import Univers.Scheme.OpensslSpec
import Univers.Scheme.SemverThm
import Univers.Vers.Spec

namespace Univers.Openssl

open Std
open Univers.Semver (natCmp charCmp strCmp_eq_iff natStr parseNat isDigitStr splitOn isPySpace
  natStr_digits natStr_ne_nil parseNat_natStr isDigitStr_natStr splitOn_eq)
open Text.Str (splitChar_ne_nil splitChar_append splitChar_of_not_mem)

namespace Legacy

theorem vercmp_of_not_mixed (a b : Raw) (h : mixedPre a b = false) : vercmp a b = tupleCmp a b := by
  simp only [vercmp, verOps, h, valOps, Py.opsOfSign]
  cases tupleCmp a b <;> rfl

theorem vercmp_of_mixed (a b : Raw) (h : mixedPre a b = true) :
    (a.major = b.major ∧ a.minor = b.minor ∧ a.build = b.build) ∧
      isPrerelease b = !isPrerelease a ∧ vercmp a b = if isPrerelease a then .lt else .gt := by
  have h' := h
  simp only [mixedPre, Bool.and_eq_true, beq_iff_eq, bne_iff_ne] at h'
  refine ⟨⟨h'.1.1.1, h'.1.1.2, h'.1.2⟩, ?_⟩
  simp only [vercmp, verOps, h, if_true]
  cases ha : isPrerelease a <;> cases hb : isPrerelease b
  · exact absurd (ha.trans hb.symm) h'.2
  · exact ⟨rfl, rfl⟩
  · exact ⟨rfl, rfl⟩
  · exact absurd (ha.trans hb.symm) h'.2

theorem then_congr : ∀ {o x y : Ordering}, (o = .eq → x = y) → o.then x = o.then y := by decide

/-- REFINEMENT: the comparison computed by the hand-written `__lt__`/`__gt__` is the order of
the key `(major, minor, fix, release?, patch)`, for all values. -/
theorem vercmp_eq_key (a b : Raw) : vercmp a b = keyCmp (key a) (key b) := by
  cases h : mixedPre a b
  · -- the release flags only matter on the same base, where they are equal
    rw [vercmp_of_not_mixed a b h]
    refine then_congr fun h1 => then_congr fun h2 => then_congr fun h3 => ?_
    have : isPrerelease a = isPrerelease b := by
      simpa [mixedPre, Nat.compare_eq_eq.mp h1, Nat.compare_eq_eq.mp h2, Nat.compare_eq_eq.mp h3]
        using h
    show _ = (natCmp (if isPrerelease a then 0 else 1) (if isPrerelease b then 0 else 1)).then
      (lexList charCmp a.patch b.patch)
    rw [this, Semver.natCmp_self]; rfl
  · obtain ⟨⟨h1, h2, h3⟩, hb, e⟩ := vercmp_of_mixed a b h
    simp only [keyCmp, key, lexPair, h1, h2, h3, Semver.natCmp_self, Ordering.eq_then, e, hb]
    cases isPrerelease a <;> rfl

instance : TransCmp vercmp := by
  have : vercmp = cmpOn key keyCmp := by funext a b; exact vercmp_eq_key a b
  rw [this]; infer_instance

theorem tupleCmp_eq_iff (a b : Raw) : tupleCmp a b = .eq ↔ a = b := by
  cases a; cases b
  simp only [tupleCmp, Ordering.then_eq_eq, Nat.compare_eq_eq, strCmp_eq_iff, Raw.mk.injEq]

theorem isPrerelease_congr {a b : Raw} (h : a.patch = b.patch) : isPrerelease a = isPrerelease b := by
  simp [isPrerelease, h]

/-- C02 for `<`, `>`, `==`, `!=`, on ALL values -/
theorem verOps_lt_gt_eq_ne_lawful (a b : Raw) :
    verOps.lt a b = (vercmp a b == .lt) ∧ verOps.gt a b = (vercmp a b == .gt) ∧
    verOps.eq a b = (vercmp a b == .eq) ∧ verOps.ne a b = (vercmp a b != .eq) := by
  cases h : mixedPre a b
  · rw [vercmp_of_not_mixed a b h]
    simp only [verOps, h, Bool.false_eq_true, if_false]
    exact ⟨rfl, rfl, rfl, rfl⟩
  · -- the two values differ in their patch, so `==` is false, as is `vercmp … = .eq`
    have hne : (tupleCmp a b == .eq) = false := beq_eq_false_iff_ne.mpr fun e => by
      rw [(tupleCmp_eq_iff a b).mp e] at h; simp [mixedPre] at h
    obtain ⟨-, hb, e⟩ := vercmp_of_mixed a b h
    simp only [verOps, h, if_true, Py.attrsOps, valOps, Py.opsOfSign, hne, e, hb]
    cases isPrerelease a <;> exact ⟨rfl, rfl, rfl, rfl⟩

/-- C02: the six operators of `LegacyOpensslVersion` are the ones induced by `vercmp`, on ALL
values (`__le__`/`__ge__` are `lt or ==` / `gt or ==` since the repair). -/
theorem verOps_lawful : Lawful verOps vercmp where
  lt a b := (verOps_lt_gt_eq_ne_lawful a b).1
  gt a b := (verOps_lt_gt_eq_ne_lawful a b).2.1
  eq a b := (verOps_lt_gt_eq_ne_lawful a b).2.2.1
  ne a b := (verOps_lt_gt_eq_ne_lawful a b).2.2.2
  le a b := by
    obtain ⟨h1, _, h3, _⟩ := verOps_lt_gt_eq_ne_lawful a b
    show (verOps.lt a b || verOps.eq a b) = _
    rw [h1, h3]; cases vercmp a b <;> rfl
  ge a b := by
    obtain ⟨_, h2, h3, _⟩ := verOps_lt_gt_eq_ne_lawful a b
    show (verOps.gt a b || verOps.eq a b) = _
    rw [h2, h3]; cases vercmp a b <;> rfl

/-- the formerly failing pair: `1.0.1-beta1 <= 1.0.1` and `1.0.1 >= 1.0.1-beta1` now hold -/
example :
    let a : Raw := ⟨1, 0, 1, "-beta1".toList⟩
    let b : Raw := ⟨1, 0, 1, []⟩
    verOps.lt a b = true ∧ verOps.le a b = true ∧ verOps.gt b a = true ∧ verOps.ge b a = true := by
  decide +kernel

/-- C12: equal versions have equal hash keys -/
theorem eq_imp_hash (a b : Raw) : verOps.eq a b = true → hashKey a = hashKey b := by
  intro h
  rw [(tupleCmp_eq_iff a b).mp (beq_iff_eq.mp h)]

/-! ### distance to the OpenSSL history (observations on the spec, not operator defects) -/

/-- `1.1.0-pre1` (a real pre-release of 1.1.0) is ordered AFTER `1.1.0`: `is_prerelease` only
knows `-alpha` and `-beta`. -/
theorem pre_tag_after_release :
    vercmp ⟨1, 1, 0, "-pre1".toList⟩ ⟨1, 1, 0, []⟩ = .gt := by decide +kernel

/-- pre-release numbers are compared as text: `-beta10` before `-beta2` -/
theorem beta_numbers_as_text :
    vercmp ⟨1, 0, 0, "-beta10".toList⟩ ⟨1, 0, 0, "-beta2".toList⟩ = .lt := by decide +kernel

def coreStr (r : Raw) : List Char := natStr r.major ++ '.' :: (natStr r.minor ++ '.' :: natStr r.build)

/-- the values `parse` can return -/
def WellFormed (r : Raw) : Prop :=
  (legacyBases.any fun b => b.isPrefixOf (coreStr r)) = true ∧
  (∀ c ∈ r.patch, isPySpace c = false ∧ c ≠ '.') ∧
  (r.patch ≠ [] → r.build < 10 ∧ ∀ c ∈ r.patch.head?, c.isDigit = false)

instance (r : Raw) : Decidable (WellFormed r) := by unfold WellFormed; infer_instance

def baseShape : List Char → Bool
  | [x, '.', y, '.', z] => (x == '0' || x == '1') && y.isDigit && z.isDigit
  | _ => false

theorem legacyBases_shape : ∀ b ∈ legacyBases, baseShape b = true := by decide +kernel

theorem baseShape_elim {b : List Char} (h : baseShape b = true) :
    ∃ x y z, b = [x, '.', y, '.', z] ∧ (x = '0' ∨ x = '1') ∧ y.isDigit = true ∧ z.isDigit = true := by
  unfold baseShape at h
  split at h
  · rename_i x y z
    simp only [Bool.and_eq_true, Bool.or_eq_true, beq_iff_eq] at h
    exact ⟨x, y, z, rfl, h.1.1, h.1.2, h.2⟩
  · cases h

theorem digit_ne_dot {c : Char} (h : c.isDigit = true) : c ≠ '.' :=
  fun e => absurd (e ▸ h) (by decide)

theorem isDigitStr_single {c : Char} (h : c.isDigit = true) : isDigitStr [c] = true := by
  simp [isDigitStr, h]

theorem single_digit {x : Char} (hx : x.isDigit = true) :
    natStr (parseNat [x]) = [x] ∧ parseNat [x] < 10 := by
  obtain ⟨d, hd, rfl⟩ := digit_eq_digitChar hx
  have : parseNat [d.digitChar] = d := by rw [← Semver.natStr_lt_ten hd, parseNat_natStr]
  rw [this]
  exact ⟨Semver.natStr_lt_ten hd, hd⟩

/-- `parse` never raises: none of the `int(...)`, `build[0]`, `patch[0]` is reachable on ASCII
text, because behind `startswith(all_legacy_base)` and `len(segments) == 3` the first two segments
are single digits and the third starts with a digit. -/
theorem parse_cases (s : List Char) :
    ∃ o, parse s = .ok o ∧ ∀ r ∈ o, (∀ c ∈ s, isPySpace c = false) → WellFormed r := by
  unfold parse
  cases hp : legacyBases.any fun b => b.isPrefixOf s
  · exact ⟨none, rfl, nofun⟩
  · obtain ⟨b, hb, hp⟩ := List.any_eq_true.mp hp
    obtain ⟨x, y, z, rfl, hx, hy, hz⟩ := baseShape_elim (legacyBases_shape b hb)
    have hx : x.isDigit = true := by rcases hx with rfl | rfl <;> rfl
    obtain ⟨t, rfl⟩ := List.isPrefixOf_iff_prefix.mp hp
    obtain ⟨hd, tl, e⟩ := List.exists_cons_of_ne_nil (splitOn_eq '.' t ▸ splitChar_ne_nil '.' t)
    have e1 : splitOn '.' (x :: '.' :: y :: '.' :: z :: t) = [x] :: [y] :: (z :: hd) :: tl := by
      simp [splitOn, e, digit_ne_dot hx, digit_ne_dot hy, digit_ne_dot hz]
    have hw : ∀ c ∈ hd, c ∈ x :: '.' :: y :: '.' :: z :: t ∧ c ≠ '.' := fun c hc =>
      Semver.mem_splitOn '.' _ (z :: hd) (by simp [e1]) c (List.mem_cons_of_mem _ hc)
    have hpre : ∀ bu w pa, natStr bu = z :: w →
        (legacyBases.any fun b => b.isPrefixOf (coreStr ⟨parseNat [x], parseNat [y], bu, pa⟩)) = true := by
      intro bu w pa e
      simp only [coreStr, (single_digit hx).1, (single_digit hy).1, e]
      exact List.any_eq_true.mpr ⟨_, hb, List.isPrefixOf_iff_prefix.mpr ⟨w, rfl⟩⟩
    simp only [Bool.not_true, Bool.false_eq_true, if_false, List.cons_append, List.nil_append, e1]
    cases tl with
    | cons _ _ => exact ⟨none, rfl, nofun⟩
    | nil =>
      simp only [pyInt, isDigitStr_single hx, isDigitStr_single hy, isDigitStr_single hz, if_true,
        bind, Except.bind]
      cases hdig : isDigitStr (z :: hd)
      · cases hd with
        | nil => exact absurd (isDigitStr_single hz) (Bool.eq_false_iff.mp hdig)
        | cons p0 ps =>
          simp only [List.drop_succ_cons, List.drop_zero]
          cases hp0 : p0.isDigit
          · exact ⟨_, rfl, fun r hr hsp => Option.some.inj hr ▸ ⟨hpre _ [] _ (single_digit hz).1,
              fun c hc => ⟨hsp c (hw c hc).1, (hw c hc).2⟩,
              fun _ => ⟨(single_digit hz).2, fun c hc => Option.some.inj hc ▸ hp0⟩⟩⟩
          · exact ⟨none, rfl, nofun⟩
      · cases hcan : natStr (parseNat (z :: hd)) != z :: hd
        · exact ⟨_, rfl, fun r hr _ => Option.some.inj hr ▸
            ⟨hpre _ hd _ (by simpa using hcan), nofun, fun hne => absurd rfl hne⟩⟩
        · exact ⟨none, rfl, nofun⟩

theorem parse_no_raise (s : List Char) : ∃ r, parse s = .ok r :=
  (parse_cases s).imp fun _ h => h.1

theorem construct_eq (s : List Char) :
    construct s = match parse (Semver.normalize s) with
      | .ok (some v) => .ok v
      | .ok none => .error .invalid
      | .error e => .error e := by
  simp only [construct, isValid]
  cases parse (Semver.normalize s) with
  | error e => rfl
  | ok o => cases o <;> rfl

theorem construct_ok_or_invalid (s : List Char) :
    (∃ r, construct s = .ok r) ∨ construct s = .error .invalid := by
  obtain ⟨o, ho, _⟩ := parse_cases (Semver.normalize s)
  rw [construct_eq, ho]
  cases o with
  | none => exact .inr rfl
  | some v => exact .inl ⟨v, rfl⟩

/-! ### C11: printing round-trips -/

theorem str_eq (r : Raw) : str r = coreStr r ++ r.patch := by
  simp only [str, coreStr, List.append_assoc, List.cons_append]

theorem dot_notin_natStr (n : Nat) : '.' ∉ natStr n :=
  fun h => absurd (natStr_digits n '.' h) (by decide)

theorem splitOn_str (r : Raw) (h : ∀ c ∈ r.patch, c ≠ '.') :
    splitOn '.' (str r) = [natStr r.major, natStr r.minor, natStr r.build ++ r.patch] := by
  rw [str_eq, coreStr, List.append_assoc, List.cons_append, List.append_assoc, List.cons_append,
    splitOn_eq, splitChar_append _ (dot_notin_natStr _), splitChar_append _ (dot_notin_natStr _),
    splitChar_of_not_mem]
  intro hm
  rcases List.mem_append.mp hm with hm | hm
  · exact dot_notin_natStr _ hm
  · exact h '.' hm rfl

theorem prefix_str (r : Raw) (h : WellFormed r) :
    (legacyBases.any fun b => b.isPrefixOf (str r)) = true := by
  obtain ⟨b, hb, hp⟩ := List.any_eq_true.mp h.1
  refine List.any_eq_true.mpr ⟨b, hb, ?_⟩
  rw [List.isPrefixOf_iff_prefix] at hp ⊢
  rw [str_eq]
  exact hp.trans (List.prefix_append _ _)

theorem parse_str (r : Raw) (h : WellFormed r) : parse (str r) = .ok (some r) := by
  unfold parse
  rw [prefix_str r h, splitOn_str r fun c hc => (h.2.1 c hc).2]
  obtain ⟨M, m, bu, pa⟩ := r
  simp only [Bool.not_true, Bool.false_eq_true, if_false, pyInt, isDigitStr_natStr, if_true,
    bind, Except.bind, parseNat_natStr]
  cases pa with
  | nil =>
    simp only [List.append_nil, isDigitStr_natStr, if_true, parseNat_natStr, bne_self_eq_false,
      Bool.false_eq_true, if_false]
  | cons p0 ps =>
    -- one digit, then something that is not a digit
    obtain ⟨hlt, hp0⟩ := h.2.2 nofun
    have hp0 : p0.isDigit = false := hp0 p0 rfl
    have hb : natStr bu = [bu.digitChar] := Semver.natStr_lt_ten hlt
    have hd : isDigitStr [bu.digitChar] = true := hb ▸ isDigitStr_natStr bu
    have hv : parseNat [bu.digitChar] = bu := hb ▸ parseNat_natStr bu
    have hnd : isDigitStr (bu.digitChar :: p0 :: ps) = false := by simp [isDigitStr, hp0]
    simp only [hb, List.cons_append, List.nil_append, hnd, Bool.false_eq_true, if_false,
      List.drop_succ_cons, List.drop_zero, hd, if_true, hv, hp0]

theorem normalize_str (r : Raw) (h : WellFormed r) : Semver.normalize (str r) = str r := by
  rw [str_eq, coreStr, List.append_assoc]
  apply Semver.normalize_of
  simp only [List.cons_append, List.append_assoc, List.forall_mem_append, List.forall_mem_cons]
  exact ⟨Semver.natStr_not_space _, rfl, Semver.natStr_not_space _, rfl, Semver.natStr_not_space _,
    fun c hc => (h.2.1 c hc).1⟩

/-- C11 on the well-formed values: `LegacyOpensslVersion(str(v)).value == v.value` -/
theorem str_roundtrip (r : Raw) (h : WellFormed r) : construct (str r) = .ok r := by
  rw [construct_eq, normalize_str r h, parse_str r h]

example : WellFormed ⟨1, 0, 1, ['a']⟩ := by decide +kernel
example : WellFormed ⟨1, 0, 10, []⟩ := by decide +kernel

theorem normalize_no_space (s : List Char) : ∀ c ∈ Semver.normalize s, isPySpace c = false := by
  intro c hc
  have h1 : c ∈ Semver.removeSpaces s := (List.dropWhile_sublist _).subset hc
  simpa using (List.mem_filter.mp h1).2

theorem parse_wf (n : List Char) (r : Raw) (hsp : ∀ c ∈ n, isPySpace c = false)
    (h : parse n = .ok (some r)) : WellFormed r := by
  obtain ⟨o, ho, hr⟩ := parse_cases n
  exact hr r (Except.ok.inj (ho.symm.trans h)) hsp

theorem construct_wf (s : List Char) (r : Raw) (h : construct s = .ok r) : WellFormed r := by
  rw [construct_eq] at h
  split at h
  · rename_i v hv
    exact Except.ok.inj h ▸ parse_wf _ v (normalize_no_space s) hv
  · cases h
  · cases h

/-- C11: every `LegacyOpensslVersion(string)` value is well-formed (`construct_wf`), hence prints
to a string that constructs the same value. -/
theorem construct_roundtrip (s : List Char) (r : Raw) (h : construct s = .ok r) :
    construct (str r) = .ok r :=
  str_roundtrip r (construct_wf s r h)

/-- the formerly accepted `1.0.05` (it printed as the invalid `1.0.5`) is now rejected -/
example : construct "1.0.05".toList = .error .invalid := by rfl

end Legacy

/-! ## `openssl` -/

theorem vercmp_modern (a b : Semver.Raw) : vercmp (.modern a) (.modern b) = Semver.vercmp a b := by
  obtain ⟨h1, h2, _, _⟩ := Semver.verOps_order_lawful a b
  simp only [vercmp, verOps, valOps, h1, h2]
  cases Semver.vercmp a b <;> rfl

/-- REFINEMENT: the comparison computed by `OpensslVersion.__lt__/__gt__` is the order of the
two-epoch key (legacy key < SemVer key), for all values. -/
theorem vercmp_eq_key : ∀ a b : Raw, vercmp a b = keyCmp (key a) (key b)
  | .legacy a, .legacy b => Legacy.vercmp_eq_key a b
  | .legacy _, .modern _ => rfl
  | .modern _, .legacy _ => rfl
  | .modern a, .modern b => (vercmp_modern a b).trans (Semver.vercmp_eq_key a b)

instance : TransCmp vercmp := by
  have : vercmp = cmpOn key keyCmp := by funext a b; exact vercmp_eq_key a b
  rw [this]; infer_instance

/-- the pairs on which all six operators are lawful: anything involving a legacy version;
two 3.x versions need canonical pre-release identifiers (for `==`/`!=` only), which every
constructed value has (`construct_canon`). -/
def Compatible : Raw → Raw → Prop
  | .modern a, .modern b => Semver.PreCanon a ∧ Semver.PreCanon b
  | _, _ => True

instance (a b : Raw) : Decidable (Compatible a b) := by
  cases a <;> cases b <;> unfold Compatible <;> infer_instance

/-- C02 for the four order operators, on ALL values -/
theorem verOps_order_lawful : ∀ a b : Raw,
    verOps.lt a b = (vercmp a b == .lt) ∧ verOps.gt a b = (vercmp a b == .gt) ∧
    verOps.le a b = (vercmp a b != .gt) ∧ verOps.ge a b = (vercmp a b != .lt)
  | .legacy a, .legacy b =>
    ⟨Legacy.verOps_lawful.lt a b, Legacy.verOps_lawful.gt a b, Legacy.verOps_lawful.le a b,
      Legacy.verOps_lawful.ge a b⟩
  | .legacy _, .modern _ => ⟨rfl, rfl, rfl, rfl⟩
  | .modern _, .legacy _ => ⟨rfl, rfl, rfl, rfl⟩
  | .modern a, .modern b => by rw [vercmp_modern]; exact Semver.verOps_order_lawful a b

/-- C02 for `==`/`!=` -/
theorem verOps_eq_lawful : ∀ a b : Raw, Compatible a b →
    verOps.eq a b = (vercmp a b == .eq) ∧ verOps.ne a b = (vercmp a b != .eq)
  | .legacy a, .legacy b, _ => ⟨Legacy.verOps_lawful.eq a b, Legacy.verOps_lawful.ne a b⟩
  | .legacy _, .modern _, _ => ⟨rfl, rfl⟩
  | .modern _, .legacy _, _ => ⟨rfl, rfl⟩
  | .modern a, .modern b, h => by rw [vercmp_modern]; exact Semver.verOps_eq_lawful a b h.1 h.2

example : Compatible (.legacy ⟨1, 0, 1, "-beta1".toList⟩) (.legacy ⟨1, 0, 1, []⟩) := by decide +kernel

def Canon : Raw → Prop
  | .legacy _ => True
  | .modern v => Semver.PreCanon v

instance (r : Raw) : Decidable (Canon r) := by cases r <;> unfold Canon <;> infer_instance

theorem compatible_of_canon {a b : Raw} (ha : Canon a) (hb : Canon b) : Compatible a b := by
  cases a <;> cases b
  case modern.modern => exact ⟨ha, hb⟩
  all_goals trivial

def CanonRaw : Type := { r : Raw // Canon r }

def verOpsCanon : VOps CanonRaw where
  lt a b := verOps.lt a.1 b.1
  le a b := verOps.le a.1 b.1
  gt a b := verOps.gt a.1 b.1
  ge a b := verOps.ge a.1 b.1
  eq a b := verOps.eq a.1 b.1
  ne a b := verOps.ne a.1 b.1

/-- C02 on the values the constructor can produce (`construct_canon`): the six operators of
`OpensslVersion` are the ones induced by `vercmp`. -/
theorem verOps_lawful : Lawful verOpsCanon (fun a b => vercmp a.1 b.1) where
  lt a b := (verOps_order_lawful a.1 b.1).1
  gt a b := (verOps_order_lawful a.1 b.1).2.1
  le a b := (verOps_order_lawful a.1 b.1).2.2.1
  ge a b := (verOps_order_lawful a.1 b.1).2.2.2
  eq a b := (verOps_eq_lawful a.1 b.1 (compatible_of_canon a.2 b.2)).1
  ne a b := (verOps_eq_lawful a.1 b.1 (compatible_of_canon a.2 b.2)).2

/-- NOT a defect of the code: two 3.x `Raw`s that no constructor produces (`-01` is rejected)
show why `==` needs `PreCanon` (see `Semver.verOps_lawful_counterexample`). -/
theorem verOps_lawful_counterexample :
    vercmp (.modern ⟨3, 0, 0, [['0', '1']], []⟩) (.modern ⟨3, 0, 0, [['1']], []⟩) = .eq ∧
    verOps.eq (.modern ⟨3, 0, 0, [['0', '1']], []⟩) (.modern ⟨3, 0, 0, [['1']], []⟩) = false := by
  decide +kernel

/-- `OpensslVersion.__hash__` exists (`hash(self.value)`) -/
theorem hashable_true : hashable = true := rfl

/-- C12: equal versions have equal hash keys (all values) -/
theorem eq_imp_hash (a b : Raw) : verOps.eq a b = true → hashKey a = hashKey b := by
  intro h
  match a, b, h with
  | .legacy a, .legacy b, h =>
    exact congrArg Raw.legacy ((Legacy.tupleCmp_eq_iff a b).mp (beq_iff_eq.mp h))
  | .modern a, .modern b, h =>
    exact congrArg Raw.modern (of_decide_eq_true ((Semver.valOps_eq_decide a b).symm.trans h))

def WellFormed : Raw → Prop
  | .legacy v => Legacy.WellFormed v
  | .modern v => Semver.WellFormed v ∧ 3 ≤ v.major

instance (r : Raw) : Decidable (WellFormed r) := by
  cases r <;> unfold WellFormed <;> infer_instance

theorem no_base_prefix (m : Nat) (hm : 2 ≤ m) (rest : List Char) :
    (Legacy.legacyBases.any fun b => b.isPrefixOf (natStr m ++ '.' :: rest)) = false := by
  refine Bool.eq_false_iff.mpr fun e => ?_
  obtain ⟨b, hb, hp⟩ := List.any_eq_true.mp e
  obtain ⟨x, y, z, rfl, hx, -, -⟩ := Legacy.baseShape_elim (Legacy.legacyBases_shape b hb)
  obtain ⟨u, hu⟩ := List.isPrefixOf_iff_prefix.mp hp
  -- the digits in front of the first dot: the numeral of `m` on one side, `x` on the other
  have h := (Semver.takeWhile_digits _ ('.' :: rest) (natStr_digits m) (Semver.noDigitHead_dot _)).1
  rw [← hu] at h
  have hm' : parseNat [x] = m := by
    rcases hx with rfl | rfl <;> exact (congrArg parseNat h).trans (parseNat_natStr m)
  rcases hx with rfl | rfl <;> exact absurd (hm' ▸ hm) (by decide)

theorem normalize_idem (s : List Char) : Semver.normalize (Semver.normalize s) = Semver.normalize s := by
  have hf : Semver.removeSpaces (Semver.normalize s) = Semver.normalize s :=
    List.filter_eq_self.mpr fun c hc => by rw [Legacy.normalize_no_space s c hc]; rfl
  show Semver.lstripV (Semver.removeSpaces (Semver.normalize s)) = _
  rw [hf]
  exact Text.Str.dropWhile_idem _ _

theorem construct_eq (s : List Char) :
    construct s = match Legacy.parse (Semver.normalize s) with
      | .ok (some v) => .ok (.legacy v)
      | .ok none =>
        if isValidNew (Semver.normalize s) then liftSemver (Semver.construct (Semver.normalize s))
        else .error .invalid
      | .error e => .error e := by
  simp only [construct, isValid, isValidLegacy, buildValue, Legacy.isValid, Legacy.construct_eq,
    normalize_idem]
  cases Legacy.parse (Semver.normalize s) with
  | error e => cases isValidNew (Semver.normalize s) <;> rfl
  | ok o =>
    cases o with
    | some v => cases isValidNew (Semver.normalize s) <;> rfl
    | none =>
      cases isValidNew (Semver.normalize s)
      · rfl
      · cases liftSemver (Semver.construct (Semver.normalize s)) <;> rfl

/-- C11 on the well-formed values: `OpensslVersion(str(v)).value == v.value` -/
theorem str_roundtrip (r : Raw) (h : WellFormed r) : construct (str r) = .ok r := by
  rw [construct_eq]
  cases r with
  | legacy v => rw [str, Legacy.normalize_str v h, Legacy.parse_str v h]
  | modern v =>
    obtain ⟨hw, h3⟩ := h
    have hc := Semver.coerce_str v hw
    have hnew : isValidNew (Semver.str v) = true := by
      simp [isValidNew, Semver.isValid, Semver.buildValue, hc, h3]
    have hleg : Legacy.parse (Semver.str v) = .ok none := by
      have hp : (Legacy.legacyBases.any fun b => b.isPrefixOf (Semver.str v)) = false := by
        rw [Semver.str_eq, Semver.render_eq]
        exact no_base_prefix _ (Nat.le_trans (by decide) h3) _
      simp only [Legacy.parse, hp, Bool.not_false, if_true]
    simp only [str, Semver.normalize_str v hw, hleg, hnew, if_true, Semver.str_roundtrip v hw,
      liftSemver]

example : WellFormed (.modern ⟨3, 0, 7, ["beta".toList, "1".toList], []⟩) := by decide +kernel

theorem modern_wellFormed_of_semver (s : List Char) (v : Semver.Raw)
    (h : Semver.construct s = .ok v) (h3 : 3 ≤ v.major) : WellFormed (.modern v) :=
  ⟨Semver.constructWith_wellFormed false s v h, h3⟩

theorem construct_wf (s : List Char) (r : Raw) (h : construct s = .ok r) : WellFormed r := by
  rw [construct_eq] at h
  split at h
  · rename_i v hv
    exact Except.ok.inj h ▸ Legacy.parse_wf _ v (Legacy.normalize_no_space s) hv
  · split at h
    · rename_i hnew
      cases hs : Semver.construct (Semver.normalize s) with
      | error e => rw [hs] at h; cases h
      | ok v =>
        rw [hs] at h
        have hc : Semver.coerce (Semver.normalize s) = some v := by
          have := Semver.constructWith_eq_ok.mp hs
          rwa [normalize_idem] at this
        refine Except.ok.inj h ▸ ⟨Semver.constructWith_wellFormed false _ v hs, ?_⟩
        simp only [isValidNew, hc] at hnew
        split at hnew
        · simpa using hnew
        · cases hnew
    · cases h
  · cases h

theorem construct_canon (s : List Char) (r : Raw) (h : construct s = .ok r) : Canon r := by
  have hw := construct_wf s r h
  cases r with
  | legacy v => trivial
  | modern v => exact hw.1.preCanon

/-- C11: every `OpensslVersion(string)` value is well-formed (`construct_wf`), hence prints to a
string that constructs the same value. -/
theorem construct_roundtrip (s : List Char) (r : Raw) (h : construct s = .ok r) :
    construct (str r) = .ok r :=
  str_roundtrip r (construct_wf s r h)

end Univers.Openssl
