/-
Theorems for the `rpm` scheme (model `Scheme/Rpm.lean`, spec `Scheme/RpmSpec.lean`).

Comparison: every test of the `Vercmp.compare` loop asks for the rank (`tilde < fin < caret < alpha <
num`) of the first segment of a stripped string (`rank_spec`), so each branch of the loop is one step
of the padded comparison of the two segment lists: `vercmp_eq_key` (C03), with it the comparator laws
(C01), the operators (C02) and `==` exactly on equal keys.  `get_segments` is the spec's tokenizer,
which gives the hash (C12).
Constructor: `str_roundtrip` (C11) holds on `WellFormed` values and FAILS on some values the
constructor produces (`0:v2`, `0:1:2`); `construct_wf` and `construct_str_roundtrip` say what the
constructor produces and which of it round-trips.
-/
import Univers.Scheme.RpmSpec
import Univers.Py.AttrsThm
import Univers.Basic.PadLexEq
import Univers.Basic.Digits

namespace Univers.Rpm

open Univers Std

theorem isDigit_iff (c : Char) : c.isDigit = true ↔ 48 ≤ c.toNat ∧ c.toNat ≤ 57 :=
  Char.isDigit_iff_toNat

def AllDigit (l : List Char) : Prop := ∀ c ∈ l, c.isDigit = true

theorem AllDigit.tail {c : Char} {l : List Char} (h : AllDigit (c :: l)) : AllDigit l :=
  fun d hd => h d (List.mem_cons_of_mem _ hd)
theorem AllDigit.head {c : Char} {l : List Char} (h : AllDigit (c :: l)) : c.isDigit = true :=
  h c (List.mem_cons_self)

abbrev val (l : List Char) (i : Nat) : Nat := Nat.ofDigitChars 10 l i

theorem val_ge (l : List Char) (i : Nat) : i ≤ val l i := by
  rw [val, Nat.ofDigitChars_eq_ofDigitChars_zero]
  exact Nat.le_trans (Nat.le_mul_of_pos_left i (Nat.pow_pos (by decide))) (Nat.le_add_right ..)

theorem val_cons (c : Char) (t : List Char) :
    val (c :: t) 0 = 10 ^ t.length * (c.toNat - 48) + val t 0 := by
  rw [val, Nat.ofDigitChars_cons, Nat.ofDigitChars_eq_ofDigitChars_zero, Nat.mul_zero, Nat.zero_add]; rfl

theorem val_lt_pow (l : List Char) (h : AllDigit l) : val l 0 < 10 ^ l.length := by
  induction l with
  | nil => decide
  | cons c t ih =>
    have hc := (isDigit_iff c).1 h.head
    rw [val_cons, List.length_cons, Nat.pow_succ]
    -- P * digit + val t 0 < P * digit + P = P * (digit + 1) ≤ P * 10
    exact Nat.lt_of_lt_of_le (Nat.add_lt_add_left (ih h.tail) _)
      (Nat.mul_le_mul_left _ (show c.toNat - 48 + 1 ≤ 10 by omega))

theorem val_lt_of_init_lt (x y : List Char) (hl : x.length = y.length) (hx : AllDigit x)
    (i j : Nat) (h : i < j) : val x i < val y j := by
  rw [val, val, Nat.ofDigitChars_eq_ofDigitChars_zero (l := x),
    Nat.ofDigitChars_eq_ofDigitChars_zero (l := y), ← hl]
  -- P * i + val x 0 < P * i + P = P * (i + 1) ≤ P * j
  exact Nat.lt_of_lt_of_le (Nat.add_lt_add_left (val_lt_pow x hx) _)
    (Nat.le_trans (Nat.mul_le_mul_left _ h) (Nat.le_add_right ..))

theorem val_cmp_same_len (x y : List Char) (hl : x.length = y.length) (hx : AllDigit x) (hy : AllDigit y)
    (i : Nat) : bytesCmp x y = compare (val x i) (val y i) := by
  induction x generalizing y i with
  | nil => cases y with
    | nil => exact (Nat.compare_eq_eq.2 rfl).symm
    | cons _ _ => cases hl
  | cons c t ih =>
    cases y with
    | nil => cases hl
    | cons d u =>
      have hc := ((isDigit_iff c).1 hx.head).1
      have hd := ((isDigit_iff d).1 hy.head).1
      have hl' : t.length = u.length := Nat.succ.inj hl
      rw [val, val, Nat.ofDigitChars_cons, Nat.ofDigitChars_cons]
      show (compare c d).then (bytesCmp t u) = _
      rw [compare_toNat]
      rcases Nat.lt_trichotomy c.toNat d.toNat with h | h | h
      · rw [Nat.compare_eq_lt.2 h]
        exact (Nat.compare_eq_lt.2 (val_lt_of_init_lt t u hl' hx.tail _ _
          (Nat.add_lt_add_left (Nat.sub_lt_sub_right hc h) _))).symm
      · rw [h, Nat.compare_eq_eq.2 rfl]
        exact ih u hl' hx.tail hy.tail _
      · rw [Nat.compare_eq_gt.2 h]
        exact (Nat.compare_eq_gt.2 (val_lt_of_init_lt u t hl'.symm hy.tail _ _
          (Nat.add_lt_add_left (Nat.sub_lt_sub_right hd h) _))).symm

theorem val_lt_of_shorter (x y : List Char) (hx : AllDigit x) (hy : AllDigit y)
    (hl : x.length < y.length) (h : y.head? ≠ some '0') : val x 0 < val y 0 := by
  cases y with
  | nil => cases hl
  | cons d u =>
    have hd := (isDigit_iff d).1 hy.head
    have : d.toNat ≠ 48 := fun e => h (congrArg some (Char.toNat_inj.1 e))
    rw [val_cons]
    -- val x 0 < 10 ^ |x| ≤ 10 ^ |u| ≤ 10 ^ |u| * digit ≤ val (d :: u) 0
    exact Nat.lt_of_lt_of_le (val_lt_pow x hx) (Nat.le_trans
      (Nat.pow_le_pow_right (by decide) (Nat.le_of_lt_succ hl))
      (Nat.le_trans (Nat.le_mul_of_pos_right _ (by omega)) (Nat.le_add_right ..)))

theorem allDigit_dropWhile (p : Char → Bool) (l : List Char) (h : AllDigit l) : AllDigit (l.dropWhile p) :=
  fun c hc => h c ((List.dropWhile_sublist p).subset hc)

theorem head?_strip (l : List Char) : (l.dropWhile (fun c => c == '0')).head? ≠ some '0' := by
  intro e
  have := List.head?_dropWhile_not (fun c => c == '0') l
  rw [e] at this
  exact absurd this (by decide)

theorem val_dropWhile_zero (l : List Char) : val (l.dropWhile (fun c => c == '0')) 0 = val l 0 := by
  induction l with
  | nil => rfl
  | cons d u ih =>
    by_cases hd : d = '0'
    · subst hd
      simpa [List.dropWhile_cons, val, Nat.ofDigitChars_cons] using ih
    · simp [hd]

theorem numCmp_eq (x y : List Char) (hx : AllDigit x) (hy : AllDigit y) :
    numCmp x y = compare (val x 0) (val y 0) := by
  simp only [numCmp]
  rw [← val_dropWhile_zero x, ← val_dropWhile_zero y]
  have hax := allDigit_dropWhile (fun c => c == '0') x hx
  have hay := allDigit_dropWhile (fun c => c == '0') y hy
  have nx := head?_strip x
  have ny := head?_strip y
  generalize x.dropWhile (fun c => c == '0') = a at *
  generalize y.dropWhile (fun c => c == '0') = b at *
  by_cases h1 : a.length < b.length
  · rw [if_pos h1]
    exact (Nat.compare_eq_lt.2 (val_lt_of_shorter a b hax hay h1 ny)).symm
  · rw [if_neg h1]
    by_cases h2 : a.length > b.length
    · rw [if_pos h2]
      exact (Nat.compare_eq_gt.2 (val_lt_of_shorter b a hay hax h2 nx)).symm
    · rw [if_neg h2]
      exact val_cmp_same_len a b (by omega) hax hay 0

theorem segs_nil : segs [] = [] := by rw [segs]

theorem segs_tilde (r : List Char) : segs ('~' :: r) = .tilde :: segs r := by
  rw [segs]; simp

theorem segs_caret (r : List Char) : segs ('^' :: r) = .caret :: segs r := by
  rw [segs]; simp

theorem digit_ne (c : Char) (h : c.isDigit = true) : c ≠ '~' ∧ c ≠ '^' ∧ c.isAlpha = false := by
  refine ⟨?_, ?_, ?_⟩
  · intro e; subst e; revert h; decide
  · intro e; subst e; revert h; decide
  · exact digit_not_alpha h

theorem alpha_ne (c : Char) (h : c.isAlpha = true) : c ≠ '~' ∧ c ≠ '^' ∧ c.isDigit = false := by
  refine ⟨?_, ?_, ?_⟩
  · intro e; subst e; revert h; decide
  · intro e; subst e; revert h; decide
  · cases hd : c.isDigit with
    | false => rfl
    | true => have := (digit_ne c hd).2.2; simp [this] at h

theorem segs_digit (c : Char) (r : List Char) (h : c.isDigit = true) :
    segs (c :: r) = .num (val ((c :: r).takeWhile Char.isDigit) 0) :: segs ((c :: r).dropWhile Char.isDigit) := by
  obtain ⟨h1, h2, _⟩ := digit_ne c h
  rw [segs]; simp [h, h1, h2]

theorem segs_alpha (c : Char) (r : List Char) (h : c.isAlpha = true) :
    segs (c :: r) = .alpha ((c :: r).takeWhile Char.isAlpha) :: segs ((c :: r).dropWhile Char.isAlpha) := by
  obtain ⟨h1, h2, h3⟩ := alpha_ne c h
  rw [segs]; simp [h, h1, h2, h3]

theorem segs_junk (c : Char) (r : List Char) (h : isStop c = false) : segs (c :: r) = segs r := by
  simp only [isStop, Bool.or_eq_false_iff, beq_eq_false_iff_ne] at h
  obtain ⟨⟨⟨h1, h2⟩, h3⟩, h4⟩ := h
  rw [segs]; simp [h1, h2, h3, h4]

theorem segs_dropJunk (x : List Char) : segs x = segs (dropJunk x) := by
  induction x with
  | nil => rfl
  | cons c r ih =>
    cases h : isStop c with
    | false => rw [segs_junk c r h, ih]; simp [dropJunk, h]
    | true => simp [dropJunk, h]

theorem segCmp_num (a b : Nat) : segCmp (.num a) (.num b) = compare a b := by
  simp [segCmp, cmpOn, lexPair, Seg.key, natCmp, lexList]

theorem segCmp_alpha (a b : List Char) : segCmp (.alpha a) (.alpha b) = bytesCmp a b := by
  show (compare 3 3).then ((lexList charCmp a b).then (compare 0 0)) = lexList charCmp a b
  generalize lexList charCmp a b = o
  cases o <;> rfl

theorem segCmp_of_rank_lt {a b : Seg} (h : a.key.1 < b.key.1) : segCmp a b = .lt := by
  simp only [segCmp, cmpOn, lexPair, natCmp]
  rw [Nat.compare_eq_lt.2 h]; rfl

theorem segCmp_of_rank_gt {a b : Seg} (h : b.key.1 < a.key.1) : segCmp a b = .gt := by
  simp only [segCmp, cmpOn, lexPair, natCmp]
  rw [Nat.compare_eq_gt.2 h]; rfl

theorem segCmp_tilde_tilde : segCmp Seg.tilde Seg.tilde = .eq := rfl
theorem segCmp_fin_fin : segCmp Seg.fin Seg.fin = .eq := rfl
theorem segCmp_caret_caret : segCmp Seg.caret Seg.caret = .eq := rfl

theorem allDigit_takeWhile (l : List Char) : AllDigit (l.takeWhile Char.isDigit) :=
  List.all_eq_true.1 List.all_takeWhile

def rank (x : List Char) : Nat := ((segs x).headD .fin).key.1

/-- Each test of the loop on a stripped string asks for one rank, and the rank says how the
segments start. -/
theorem rank_spec (x : List Char) :
    let f := dropJunk x
    (startsWith '~' f = decide (rank x = 0) ∧ f.isEmpty = decide (rank x = 1) ∧
      startsWith '^' f = decide (rank x = 2) ∧ startsAlpha f = decide (rank x = 3) ∧
      startsDigit f = decide (rank x = 4)) ∧ rank x ≤ 4 ∧
    segs x = match rank x with
      | 0 => .tilde :: segs (f.drop 1)
      | 1 => []
      | 2 => .caret :: segs (f.drop 1)
      | 3 => .alpha (f.takeWhile Char.isAlpha) :: segs (f.dropWhile Char.isAlpha)
      | _ => .num (val (f.takeWhile Char.isDigit) 0) :: segs (f.dropWhile Char.isDigit) := by
  dsimp only
  unfold rank
  rw [segs_dropJunk x]
  cases hf : dropJunk x with
  | nil => simp [segs_nil, startsWith, startsAlpha, startsDigit, Seg.key]
  | cons c r =>
    have hst : isStop c = true := by
      have := List.head?_dropWhile_not (fun c => !isStop c) x
      rw [show List.dropWhile _ x = c :: r from hf] at this
      simpa using this
    by_cases e1 : c = '~'
    · subst e1; simp [segs_tilde, startsWith, startsAlpha, startsDigit, Seg.key]
    by_cases e2 : c = '^'
    · subst e2; simp [segs_caret, startsWith, startsAlpha, startsDigit, Seg.key]
    by_cases e3 : c.isDigit = true
    · simp [segs_digit c r e3, startsWith, startsAlpha, startsDigit, Seg.key, e3, digit_ne c e3]
    · have e4 : c.isAlpha = true := by simpa [isStop, e1, e2, e3] using hst
      simp [segs_alpha c r e4, startsWith, startsAlpha, startsDigit, Seg.key, e1, e2, e3, e4]

theorem rank_le (x : List Char) : rank x ≤ 4 := (rank_spec x).2.1

theorem segsCmp_of_rank_lt {x y : List Char} (h : rank x < rank y) : segsCmp (segs x) (segs y) = .lt := by
  unfold rank at h
  cases hx : segs x <;> cases hy : segs y <;> rw [hx, hy] at h
  · exact absurd h (Nat.lt_irrefl _)
  all_goals simp only [segsCmp, padLex]; exact congrArg (Ordering.then · _) (segCmp_of_rank_lt h)

theorem segsCmp_of_rank_gt {x y : List Char} (h : rank y < rank x) : segsCmp (segs x) (segs y) = .gt := by
  rw [OrientedCmp.eq_swap (cmp := segsCmp), segsCmp_of_rank_lt h]; rfl

theorem segsCmp_of_rank_eq {x y : List Char} (k : Nat) (hx : rank x = k) (hy : rank y = k) :
    let f := dropJunk x
    let g := dropJunk y
    segsCmp (segs x) (segs y) = match (generalizing := false) k with
      | 0 | 2 => segsCmp (segs (f.drop 1)) (segs (g.drop 1))
      | 1 => .eq
      | 3 => (bytesCmp (f.takeWhile Char.isAlpha) (g.takeWhile Char.isAlpha)).then
          (segsCmp (segs (f.dropWhile Char.isAlpha)) (segs (g.dropWhile Char.isAlpha)))
      | _ => (numCmp (f.takeWhile Char.isDigit) (g.takeWhile Char.isDigit)).then
          (segsCmp (segs (f.dropWhile Char.isDigit)) (segs (g.dropWhile Char.isDigit))) := by
  dsimp only
  rw [(rank_spec x).2.2, (rank_spec y).2.2, hx, hy]
  split <;> simp only [segsCmp, padLex, segCmp_alpha, segCmp_num,
    numCmp_eq _ _ (allDigit_takeWhile _) (allDigit_takeWhile _)] <;> rfl

/-- Every branch of the loop has tested the ranks of the two first segments far enough to be one
step of `segsCmp`: different ranks (branches 1, 3-5, 7, 8, 10-12, 16), `~ ~` (2), `^ ^` (6), both at
the end (9), two digit runs (13-15), two letter runs (17-19). -/
theorem cmpLoop_eq (a b : List Char) : cmpLoop a b = segsCmp (segs a) (segs b) := by
  fun_induction cmpLoop a b with
    simp +zetaDelta only [(rank_spec _).1, decide_eq_true_eq, Bool.not_eq_true', decide_eq_false_iff_not,
      Bool.or_eq_true, Bool.and_eq_true, Classical.not_not] at *
  | case1 x y | case5 x y | case7 x y | case11 x y => exact (segsCmp_of_rank_lt (by omega)).symm
  | case3 x y | case4 x y | case8 x y | case10 x y => exact (segsCmp_of_rank_gt (by omega)).symm
  | case12 x y => have := rank_le y; exact (segsCmp_of_rank_gt (by omega)).symm
  | case16 x y => have := rank_le x; exact (segsCmp_of_rank_lt (by omega)).symm
  | case2 x y => rw [segsCmp_of_rank_eq 0 (by assumption) (by assumption)]; assumption
  | case6 x y => rw [segsCmp_of_rank_eq 2 (by assumption) (by assumption)]; assumption
  | case9 x y => exact (segsCmp_of_rank_eq 1 (by omega) (by omega)).symm
  | case13 x y | case14 x y =>
    rw [segsCmp_of_rank_eq 4 (by assumption) (by assumption), ‹numCmp _ _ = _›]; rfl
  | case15 x y =>
    rw [segsCmp_of_rank_eq 4 (by assumption) (by assumption), ‹numCmp _ _ = _›]; assumption
  | case17 x y | case18 x y =>
    have := rank_le x
    rw [segsCmp_of_rank_eq 3 (by omega) (by assumption), ‹bytesCmp _ _ = _›]; rfl
  | case19 x y =>
    have := rank_le x
    rw [segsCmp_of_rank_eq 3 (by omega) (by assumption), ‹bytesCmp _ _ = _›]; assumption

theorem strCmp_eq (x y : List Char) : strCmp x y = segsCmp (segs x) (segs y) := by
  unfold strCmp
  split
  · next h => subst h; exact (ReflCmp.compare_self (cmp := segsCmp)).symm
  · exact cmpLoop_eq x y

/-- REFINEMENT (C03): `compare_rpm_versions` orders two values the way the key
`(epoch, segments of version, segments of release)` does. -/
theorem vercmp_eq_key (a b : Raw) : vercmp a b = keyCmp (key a) (key b) := by
  simp only [vercmp, keyCmp, key, lexPair, intCmp, strCmp_eq]
  rcases Int.lt_trichotomy a.epoch b.epoch with h | h | h
  · rw [Int.compare_eq_lt.2 h, if_pos (bne_iff_ne.2 (Int.ne_of_lt h)), if_neg (Int.lt_asymm h)]; rfl
  · rw [Int.compare_eq_eq.2 h, if_neg (by simp [h])]
    split
    · next hv =>
      rw [hv.1, hv.2, ReflCmp.compare_self (cmp := segsCmp), ReflCmp.compare_self (cmp := segsCmp)]; rfl
    · cases segsCmp (segs a.version) (segs b.version) <;> rfl
  · rw [Int.compare_eq_gt.2 h, if_pos (bne_iff_ne.2 (Int.ne_of_gt h)), if_pos h]; rfl

instance : TransCmp vercmp :=
  have : vercmp = cmpOn key keyCmp := by funext a b; exact vercmp_eq_key a b
  this ▸ inferInstanceAs (TransCmp (cmpOn key keyCmp))

/-- since the repair 9738a24 the value class `univers.rpm.RpmVersion` is lawful (before it,
`1.0 == 1.00` and `1.0 != 1.00` were both true: inherited textual `tuple.__ne__`). -/
theorem valOps_lawful : Lawful valOps vercmp := by
  constructor <;> intro a b <;> rfl

/-- C02: the six operators of `univers.versions.RpmVersion` are the ones induced by
`compare_rpm_versions` -/
theorem verOps_lawful : Lawful verOps vercmp := Py.lawful_attrs valOps_lawful

def w10 : Raw := ⟨0, ['1', '.', '0'], []⟩

def w100 : Raw := ⟨0, ['1', '.', '0', '0'], []⟩

theorem vercmp_w10_w100 : vercmp w10 w100 = .eq := by decide +kernel

theorem charCmp_eq_eq (c d : Char) (h : charCmp c d = .eq) : c = d := by
  simp only [charCmp, compare_toNat] at h
  exact Char.toNat_inj.1 (Nat.compare_eq_eq.1 h)

theorem segCmp_eq_eq (a b : Seg) (h : segCmp a b = .eq) : a = b := by
  have hk : a.key = b.key := by
    simp only [segCmp, cmpOn, lexPair, natCmp, Ordering.then_eq_eq, Nat.compare_eq_eq] at h
    exact Prod.ext h.1 (Prod.ext (lexList_eq_eq charCmp_eq_eq _ _ h.2.1) h.2.2)
  cases a <;> cases b <;> cases hk <;> rfl

theorem fin_not_mem_segs (s : List Char) : Seg.fin ∉ segs s := by
  fun_induction segs s <;> simp [*]

/-- `==` holds exactly on identical keys: a correct `__hash__` is a function of `key` -/
theorem eq_iff_key_eq (a b : Raw) : verOps.eq a b = true ↔ key a = key b := by
  rw [verOps_lawful.eq, vercmp_eq_key, beq_iff_eq]
  refine ⟨fun h => ?_, fun h => by rw [h]; exact ReflCmp.compare_self⟩
  simp only [keyCmp, key, lexPair, intCmp, Ordering.then_eq_eq] at h
  rw [key, key, Int.compare_eq_eq.1 h.1,
    padLex_eq_eq segCmp_eq_eq _ _ (fin_not_mem_segs _) (fin_not_mem_segs _) h.2.1,
    padLex_eq_eq segCmp_eq_eq _ _ (fin_not_mem_segs _) (fin_not_mem_segs _) h.2.2]

theorem strip_eq_of_val_eq (x y : List Char) (hx : AllDigit x) (hy : AllDigit y)
    (h : val x 0 = val y 0) :
    x.dropWhile (fun c => c == '0') = y.dropWhile (fun c => c == '0') := by
  have hn := numCmp_eq x y hx hy
  rw [h, Nat.compare_eq_eq.2 rfl] at hn
  simp only [numCmp] at hn
  split at hn
  · cases hn
  · split at hn
    · cases hn
    · exact lexList_eq_eq charCmp_eq_eq _ _ hn

/-- a segment of the spec as the element of the tuple that `get_segments` returns -/
def toH : Seg → List Char
  | .tilde => ['~']
  | .caret => ['^']
  | .fin => []
  | .alpha s => s
  | .num n => (Nat.toDigits 10 n).dropWhile (fun c => c == '0')

theorem convSeg_digits (t : List Char) (hd : AllDigit t) (hne : t.isEmpty = false) :
    convSeg t = toH (.num (val t 0)) := by
  simp only [convSeg, List.all_eq_true.2 hd, hne, Bool.not_false, Bool.and_self, ↓reduceIte, toH]
  exact strip_eq_of_val_eq _ _ hd (toDigits_isDigit _) Nat.ofDigitChars_ten_toDigits.symm

theorem convSeg_alpha (c : Char) (r : List Char) (h : c.isAlpha = true) :
    convSeg ((c :: r).takeWhile Char.isAlpha) = (c :: r).takeWhile Char.isAlpha := by
  have hd := (alpha_ne c h).2.2
  simp [convSeg, h, hd]

theorem getSegments_eq (s : List Char) : getSegments s = (segs s).map toH := by
  unfold getSegments
  fun_induction segs s with
  | case1 => rw [findSegs]; rfl
  | case2 c r hc ih =>
    obtain rfl : c = '~' := by simpa using hc
    rw [findSegs, List.map_cons, ← ih]; rfl
  | case3 c r _ hc ih =>
    obtain rfl : c = '^' := by simpa using hc
    rw [findSegs, List.map_cons, ← ih]; rfl
  | case4 c r _ _ hd ih =>
    rw [findSegs, if_pos hd, List.map_cons, List.map_cons, ih,
      convSeg_digits _ (allDigit_takeWhile _) (by simp [hd])]
  | case5 c r _ _ hd ha ih =>
    rw [findSegs, if_neg hd, if_pos ha, List.map_cons, List.map_cons, ih, convSeg_alpha c r ha]; rfl
  | case6 c r h1 h2 hd ha ih =>
    rw [findSegs, if_neg hd, if_neg ha, if_neg h1, if_neg h2, ih]

theorem hashKey_eq (r : Raw) :
    hashKey r = ((key r).1, (key r).2.1.map toH, (key r).2.2.map toH) := by
  simp only [hashKey, getSegments_eq]; rfl

/-- C12 (since the repairs 9738a24, 39a75b5): versions that are `==` have the same hash key -/
theorem eq_imp_hash (a b : Raw) : verOps.eq a b = true → hashKey a = hashKey b :=
  fun h => by rw [hashKey_eq, hashKey_eq, (eq_iff_key_eq a b).1 h]

def noWs (l : List Char) : Bool := l.all (fun c => !isWs c)

/-- what every constructed value satisfies (`construct_wf`): no whitespace, no `-` in the version
part, a version part that is not empty (since 27588a5), an epoch that `int()`/`str()` can handle -/
def built (r : Raw) : Bool :=
  noWs r.version && noWs r.release && !r.version.contains '-' && !r.version.isEmpty
  && decide ((Nat.toDigits 10 r.epoch.natAbs).length ≤ maxStrDigits)

def Built (r : Raw) : Prop := built r = true
instance (r : Raw) : Decidable (Built r) := inferInstanceAs (Decidable (_ = true))

/-- the constructed values that `str` spells unambiguously: with epoch 0 (not printed) the rest
must not look like it has an epoch or a leading `v` -/
def wellFormed (r : Raw) : Bool :=
  built r
  && (r.epoch != 0 ||
      (!r.version.contains ':' && !r.release.contains ':' && !startsV r.version))
where startsV : List Char → Bool
  | [] => false
  | c :: _ => isV c

def WellFormed (r : Raw) : Prop := wellFormed r = true
instance (r : Raw) : Decidable (WellFormed r) := inferInstanceAs (Decidable (_ = true))

theorem removeSpaces_of_noWs {l : List Char} (h : noWs l = true) : removeSpaces l = l := by
  simp only [noWs, List.all_eq_true] at h
  exact List.filter_eq_self.2 h

theorem partition_append (sep : Char) (a b : List Char) (h : a.contains sep = false) :
    partition sep (a ++ sep :: b) = (a, b) := by
  have h' : ∀ c ∈ a, (c != sep) = true := fun c hc => bne_iff_ne.2 fun e => by simp [← e, hc] at h
  simp [partition, List.takeWhile_append_of_pos h', List.dropWhile_append_of_pos h']

theorem validTail_allDigit (l : List Char) (h : AllDigit l) : validTail l = true := by
  induction l with
  | nil => rfl
  | cons c t ih =>
    cases t with
    | nil => simpa [validTail] using h.head
    | cons d u => simp only [validTail, h.head, ↓reduceIte]; exact ih h.tail

theorem pyNatLit_toDigits (n : Nat) (hn : (Nat.toDigits 10 n).length ≤ maxStrDigits) :
    pyNatLit (Nat.toDigits 10 n) = some n := by
  have hd : AllDigit (Nat.toDigits 10 n) := toDigits_isDigit n
  have hv : validBody (Nat.toDigits 10 n) = true := by
    cases h : Nat.toDigits 10 n with
    | nil => exact absurd h Nat.toDigits_ne_nil
    | cons c t =>
      rw [h] at hd
      simp [validBody, hd.head, validTail_allDigit t hd.tail]
  simp only [pyNatLit, hv, ↓reduceIte, List.filter_eq_self.2 hd]
  rw [if_neg (by omega), Nat.ofDigitChars_ten_toDigits]

theorem pyInt_digits (l : List Char) (h : AllDigit l) :
    pyInt l = (pyNatLit l).map (fun (n : Nat) => (n : Int)) := by
  unfold pyInt
  split
  · exact absurd h.head (by decide)
  · exact absurd h.head (by decide)
  · rfl

theorem pyInt_pyIntStr (e : Int) (hn : (Nat.toDigits 10 e.natAbs).length ≤ maxStrDigits) :
    pyInt (pyIntStr e) = some e := by
  by_cases he : e < 0
  · rw [pyIntStr, if_pos he, pyInt, pyNatLit_toDigits _ hn, Option.map_some]
    exact congrArg some (by omega)
  · rw [pyIntStr, if_neg he, pyInt_digits _ (toDigits_isDigit _), pyNatLit_toDigits _ hn, Option.map_some]
    exact congrArg some (by omega)

/-- the characters of `str(int)`: digits and `-` -/
theorem pyIntStr_facts (e : Int) : ∀ c ∈ pyIntStr e, isWs c = false ∧ c ≠ ':' ∧ isV c = false := by
  intro c hc
  have h : c = '-' ∨ c.isDigit = true := by
    unfold pyIntStr at hc
    split at hc
    · exact (List.mem_cons.1 hc).imp_right (toDigits_isDigit _ c)
    · exact .inr (toDigits_isDigit _ c hc)
  have hn : 45 ≤ c.toNat ∧ c.toNat ≤ 57 := by
    rcases h with rfl | h
    · decide
    · have := (isDigit_iff c).1 h; omega
  simp only [isWs, isV, ne_eq, ← Char.toNat_inj, Char.reduceToNat, Bool.or_eq_false_iff,
    Bool.and_eq_false_iff, decide_eq_false_iff_not, beq_eq_false_iff_ne]
  omega

theorem pyIntStr_ne_nil (e : Int) : pyIntStr e ≠ [] := by
  simp only [pyIntStr]
  split
  · simp
  · exact Nat.toDigits_ne_nil

/-- `vr` of `to_string` -/
def vrOf (v rl : List Char) : List Char := if rl.isEmpty then v else v ++ '-' :: rl

theorem noWs_vrOf (v rl : List Char) (hv : noWs v = true) (hr : noWs rl = true) :
    noWs (vrOf v rl) = true := by
  unfold vrOf
  split
  · exact hv
  · simp only [noWs, List.all_append, List.all_cons, Bool.and_eq_true] at hv hr ⊢
    exact ⟨hv, by decide, hr⟩

theorem fromEvr_tail (e : Int) (v rl : List Char) (hv : v.contains '-' = false) :
    (let (v', r') := if (vrOf v rl).contains '-' then partition '-' (vrOf v rl) else (vrOf v rl, [])
     (some ⟨e, v', r'⟩ : Option Raw)) = some ⟨e, v, rl⟩ := by
  have : (if (vrOf v rl).contains '-' then partition '-' (vrOf v rl) else (vrOf v rl, [])) = (v, rl) := by
    cases rl with
    | nil => exact if_neg (Bool.eq_false_iff.1 hv)
    | cons c t => exact (if_pos (by simp [vrOf])).trans (partition_append '-' v (c :: t) hv)
  rw [this]

theorem normalize_eq {s : List Char} (hws : noWs s = true) (hv : wellFormed.startsV s = false) :
    normalize s = s := by
  rw [normalize, removeSpaces_of_noWs hws]
  cases s with
  | nil => rfl
  | cons c t => exact List.dropWhile_cons_of_neg (Bool.eq_false_iff.1 hv)

theorem construct_of {s : List Char} {r : Raw} (hws : noWs s = true) (hv : wellFormed.startsV s = false)
    (hf : fromEvr s = some r) (hne : r.version.isEmpty = false) : construct s = .ok r := by
  have : s.isEmpty = false := by
    cases s with
    | nil => cases hf; cases hne
    | cons _ _ => rfl
  simp [construct, isValid, normalize_eq hws hv, this, hf, hne]

/-- C11 on well-formed values: `RpmVersion(str(x)).value == x.value`, textually -/
theorem str_roundtrip (r : Raw) (h : WellFormed r) : construct (str r) = .ok r := by
  obtain ⟨e, v, rl⟩ := r
  simp only [WellFormed, wellFormed, built, Bool.and_eq_true, Bool.not_eq_true', decide_eq_true_eq,
    Bool.or_eq_true, bne_iff_ne, ne_eq, and_assoc] at h
  obtain ⟨hwv, hwr, hdash, hnev, hdig, hep⟩ := h
  have hvr := noWs_vrOf v rl hwv hwr
  by_cases he : e = 0
  · -- epoch 0 is not printed: the text is `vr` alone, and `hep` keeps out of it the `:` that would
    -- be read as the end of an epoch and the leading `v` that `normalize` would drop
    subst he
    obtain ⟨hcv, hcr, hsv⟩ := hep.resolve_left (· rfl)
    have hcol : (vrOf v rl).contains ':' = false := by
      have h1 : ':' ∉ v := by simpa using hcv
      have h2 : ':' ∉ rl := by simpa using hcr
      unfold vrOf; split <;> simp [h1, h2]
    have hsV : wellFormed.startsV (vrOf v rl) = false := by
      cases v with
      | nil => cases hnev
      | cons c t => unfold vrOf; split <;> exact hsv
    refine construct_of (s := vrOf v rl) hvr hsV ?_ hnev
    simp only [fromEvr, hcol, Bool.false_eq_true, ↓reduceIte, show pyInt ['0'] = some 0 by decide]
    exact fromEvr_tail 0 v rl hdash
  · -- the epoch is printed: `str(int)` has no `:` in it, so the first `:` of the text is the one
    -- that ends it, whatever `vr` holds
    have hs : str ⟨e, v, rl⟩ = pyIntStr e ++ ':' :: vrOf v rl := by simp [str, vrOf, he]
    have hch := pyIntStr_facts e
    have hws : noWs (pyIntStr e ++ ':' :: vrOf v rl) = true := by
      simp only [noWs, List.all_append, List.all_cons, Bool.and_eq_true, List.all_eq_true] at hvr ⊢
      exact ⟨fun c hc => by simp [(hch c hc).1], by decide, hvr⟩
    have hcol : (pyIntStr e).contains ':' = false := by
      simpa using fun hc => (hch _ hc).2.1 rfl
    have hsV : wellFormed.startsV (pyIntStr e ++ ':' :: vrOf v rl) = false := by
      cases hp : pyIntStr e with
      | nil => exact absurd hp (pyIntStr_ne_nil e)
      | cons c t => exact (hch c (hp ▸ List.mem_cons_self)).2.2
    rw [hs]
    refine construct_of hws hsV ?_ hnev
    simp only [fromEvr, show (pyIntStr e ++ ':' :: vrOf v rl).contains ':' = true by simp, ↓reduceIte,
      partition_append ':' _ _ hcol, pyInt_pyIntStr e hdig]
    exact fromEvr_tail e v rl hdash

instance instDecEqResult : DecidableEq (Except PErr Raw)
  | .ok x, .ok y => decidable_of_iff (x = y) ⟨congrArg _, Except.ok.inj⟩
  | .error x, .error y => decidable_of_iff (x = y) ⟨congrArg _, Except.error.inj⟩
  | .ok _, .error _ => isFalse nofun
  | .error _, .ok _ => isFalse nofun

example : WellFormed ⟨1, "1.2".toList, "3.el7".toList⟩ := by decide +kernel
example : WellFormed ⟨0, "1.2".toList, []⟩ := by decide +kernel

/-- C11 FAILS outside `WellFormed`, on values that the constructor does produce:
`RpmVersion("0:v2")` has value `(0, "v2", "")`, prints as `"v2"`, which parses to `(0, "2", "")`
(`normalize` strips the `v`), a different and larger version. -/
theorem str_roundtrip_counterexample :
    construct "0:v2".toList = .ok ⟨0, ['v', '2'], []⟩ ∧ str ⟨0, ['v', '2'], []⟩ = ['v', '2'] ∧
    construct ['v', '2'] = .ok ⟨0, ['2'], []⟩ ∧ vercmp ⟨0, ['v', '2'], []⟩ ⟨0, ['2'], []⟩ = .lt := by
  decide +kernel

/-- `RpmVersion("0:1:2")` has value `(0, "1:2", "")`, prints as `"1:2"`, which parses to
`(1, "2", "")`. -/
theorem str_roundtrip_counterexample_epoch :
    construct "0:1:2".toList = .ok ⟨0, ['1', ':', '2'], []⟩ ∧ str ⟨0, ['1', ':', '2'], []⟩ = ['1', ':', '2'] ∧
    construct ['1', ':', '2'] = .ok ⟨1, ['2'], []⟩ := by decide +kernel

/-- since 27588a5 nothing but `InvalidVersion` escapes the constructor (before it,
`RpmVersion("a:1")` raised the bare `ValueError` of `int()`) -/
theorem construct_declared (s : List Char) (n : String) : construct s ≠ .error (.other n) := by
  rcases hf : fromEvr (normalize s) with _ | r
  · simp [construct, isValid, hf]
  · simp only [construct, isValid, hf]
    split <;> simp <;> split <;> simp

theorem construct_badEpoch_invalid : construct "a:1".toList = .error .invalid := by decide +kernel

/-- since 27588a5 a value with an empty version part is rejected (before it, `RpmVersion("0:")`
printed as the empty string) -/
theorem construct_emptyVersion_invalid :
    construct "0:".toList = .error .invalid ∧ construct "-".toList = .error .invalid ∧
    construct "0:-1".toList = .error .invalid := by decide +kernel

theorem pyNatLit_bound (body : List Char) (n : Nat) (h : pyNatLit body = some n) :
    (Nat.toDigits 10 n).length ≤ maxStrDigits := by
  simp only [pyNatLit] at h
  split at h
  · split at h
    · cases h
    · next hlen =>
      have hn := Option.some.inj h
      have hd : AllDigit (body.filter Char.isDigit) := fun c hc => (List.mem_filter.1 hc).2
      have hlt := val_lt_pow _ hd
      rw [val, hn] at hlt
      have hp : 10 ^ (body.filter Char.isDigit).length ≤ 10 ^ maxStrDigits :=
        Nat.pow_le_pow_right (by omega) (by omega)
      exact (Nat.length_toDigits_le_iff (by omega) (by decide)).2 (by omega)
  · cases h

theorem pyInt_bound (s : List Char) (e : Int) (h : pyInt s = some e) :
    (Nat.toDigits 10 e.natAbs).length ≤ maxStrDigits := by
  unfold pyInt at h
  split at h <;>
  · simp only [Option.map_eq_some_iff] at h
    obtain ⟨n, hn, he⟩ := h
    have := pyNatLit_bound _ n hn
    rw [← he]
    simpa using this

theorem partition_sub (sep : Char) (l : List Char) :
    (partition sep l).1.Sublist l ∧ (partition sep l).2.Sublist l ∧ sep ∉ (partition sep l).1 :=
  ⟨List.takeWhile_sublist _, (List.drop_sublist _ _).trans (List.dropWhile_sublist _),
    fun h => by simpa using List.all_eq_true.1 List.all_takeWhile sep h⟩

theorem noWs_of_sub {a b : List Char} (h : a.Sublist b) (hb : noWs b = true) : noWs a = true :=
  List.all_eq_true.2 fun c hc => List.all_eq_true.1 hb c (h.subset hc)

theorem noWs_normalize (s : List Char) : noWs (normalize s) = true := by
  simp only [noWs, List.all_eq_true, normalize, removeSpaces]
  intro c hc
  have := (List.dropWhile_sublist _).subset hc
  exact (List.mem_filter.1 this).2

theorem fromEvr_wf (n : List Char) (r : Raw) (hn : noWs n = true) (h : fromEvr n = some r) :
    noWs r.version = true ∧ noWs r.release = true ∧ r.version.contains '-' = false ∧
    (Nat.toDigits 10 r.epoch.natAbs).length ≤ maxStrDigits := by
  unfold fromEvr at h
  split at h
  next e vr hevr =>
    -- `vr`, what follows the epoch, is a piece of `n`; version and release are pieces of `vr`
    have hvr : vr.Sublist n := by
      split at hevr
      · exact (Prod.mk.inj hevr).2 ▸ (partition_sub ':' n).2.1
      · exact (Prod.mk.inj hevr).2 ▸ .refl _
    split at h
    · cases h
    next ep hep =>
      split at h
      next v rl hvrl =>
        cases h
        have hv : v.Sublist vr ∧ rl.Sublist vr ∧ v.contains '-' = false := by
          split at hvrl <;> cases hvrl
          · exact ⟨(partition_sub '-' vr).1, (partition_sub '-' vr).2.1,
              by simpa [partition] using (partition_sub '-' vr).2.2⟩
          · next hc => exact ⟨.refl _, List.nil_sublist _, by simpa using hc⟩
        exact ⟨noWs_of_sub (hv.1.trans hvr) hn, noWs_of_sub (hv.2.1.trans hvr) hn, hv.2.2,
          pyInt_bound e ep hep⟩

theorem construct_wf (s : List Char) (r : Raw) (h : construct s = .ok r) : Built r := by
  by_cases hval : isValid (normalize s) = true
  · rcases hf : fromEvr (normalize s) with _ | r'
    · simp [isValid, hf] at hval
    · obtain ⟨h1, h2, h3, h4⟩ := fromEvr_wf _ r' (noWs_normalize s) hf
      simp only [construct, hval, hf, Bool.not_true, Bool.false_eq_true, ↓reduceIte, Except.ok.injEq] at h
      simp only [isValid, hf, Bool.not_eq_true', Bool.if_false_left, Bool.and_eq_true] at hval
      subst h
      rw [Built, built, h1, h2, h3, hval.2, decide_eq_true h4]; rfl
  · simp [construct, hval] at h

/-- a constructed value round-trips through `str` as soon as its epoch is printed, or the rest
cannot be mistaken for an epoch / a `v` prefix -/
theorem construct_str_roundtrip (s : List Char) (r : Raw) (h : construct s = .ok r)
    (hx : r.epoch ≠ 0 ∨ (r.version.contains ':' = false ∧ r.release.contains ':' = false ∧
      wellFormed.startsV r.version = false)) : construct (str r) = .ok r := by
  refine str_roundtrip r ?_
  rw [WellFormed, wellFormed, show built r = true from construct_wf s r h, Bool.true_and]
  rcases hx with hx | ⟨h1, h2, h3⟩
  · simp [hx]
  · rw [h1, h2, h3]; simp

end Univers.Rpm
