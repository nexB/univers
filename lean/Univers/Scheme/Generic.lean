/-
Layer A — `GenericVersion`: the value is the normalized string itself; the six operators are
the attrs-generated ones on the 1-tuple `(value,)`, i.e. Python `str` comparison
(code-point lexicographic).  `is_valid` is `bool(string)`.
-/
import Univers.Basic.PadLexEq
import Univers.Py.AttrsThm
import Univers.Vers.Spec

namespace Univers.Generic

open Univers Std

abbrev Raw := List Char

inductive PErr | invalid | other (name : String)

/-- ASCII whitespace removed by `"".join(s.split())` -/
def isWs (c : Char) : Bool :=
  c.toNat == 32 || (9 ≤ c.toNat && c.toNat ≤ 13) || (28 ≤ c.toNat && c.toNat ≤ 31)

/-- `Version.normalize`: remove all whitespace, then `lstrip("vV")` -/
def normalize (s : List Char) : List Char :=
  (s.filter (fun c => !isWs c)).dropWhile (fun c => c == 'v' || c == 'V')

def construct (s : List Char) : Except PErr Raw :=
  let n := normalize s
  if n.isEmpty then .error .invalid else .ok n

def str (r : Raw) : List Char := r

def charCmp : Char → Char → Ordering := cmpOn Char.toNat (fun a b : Nat => compare a b)

instance : TransCmp charCmp :=
  have : TransCmp (fun a b : Nat => compare a b) := inferInstance
  inferInstanceAs (TransCmp (cmpOn Char.toNat (fun a b : Nat => compare a b)))

/-- Python `str` three-way comparison: code points, shorter prefix first -/
def vercmp : Raw → Raw → Ordering := lexList charCmp

instance : TransCmp vercmp := inferInstanceAs (TransCmp (lexList charCmp))

/-- `str.__lt__` etc. -/
def valOps : VOps Raw := Py.opsOfSign vercmp

def verOps : VOps Raw := Py.attrsOps valOps

def hashable : Bool := true
def hashKey (r : Raw) : List Char := r

theorem verOps_lawful : Lawful verOps vercmp :=
  Py.lawful_attrs (Py.lawful_opsOfSign vercmp)

theorem charCmp_eq_eq {a b : Char} (h : charCmp a b = .eq) : a = b := by
  simp only [charCmp, cmpOn] at h
  have : a.toNat = b.toNat := Nat.compare_eq_eq.mp h
  exact Char.toNat_inj.mp this

theorem vercmp_eq (a b : Raw) : vercmp a b = .eq → a = b :=
  lexList_eq_eq (fun _ _ => charCmp_eq_eq) a b

theorem eq_imp_hash (a b : Raw) : verOps.eq a b = true → hashKey a = hashKey b := by
  intro h
  exact vercmp_eq a b (beq_iff_eq.mp (verOps_lawful.eq a b ▸ h))

end Univers.Generic
