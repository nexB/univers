/-
Theorems for schemes `ebuild` and `alpine`: on valid versions `gentoo.vercmp` computes the key
order `keyC` (PMS §3.3 with rule 3.3 applied to the first component too) and is therefore a
lawful comparator (C01); it computes the PMS order itself on versions whose first component has
no superfluous leading zero (C03, partial + counterexample `010` vs `10`); operators (C02), hash
on valid versions (C12), `str` round trip (C11).

The loops of the code return early; they are read as `Option Ordering` (`some c` = `return c`) and
chained with `Option.or`, which is what `Ordering.then` becomes under `toOpt`.
-/
import Univers.Scheme.GentooSpec
import Univers.Py.AttrsThm
import Univers.Basic.Digits
import Univers.Basic.PadLexEq

namespace Univers.Gentoo

open Univers Std

def toOpt : Ordering → Option Ordering
  | .eq => none
  | c => some c

theorem match_toOpt (o x : Ordering) :
    (match toOpt o with | some c => c | none => x) = o.then x := by cases o <;> rfl

/-- the two early returns of `vercmp` -/
theorem match_toOpt₂ (o s r : Ordering) :
    (match toOpt o with
      | some c => c
      | none => match toOpt s with | some c => c | none => r) = o.then (s.then r) := by
  cases o <;> cases s <;> rfl

theorem ite_ne_toOpt (c : Ordering) (x : Option Ordering) :
    (if (c != .eq) = true then some c else x) = (toOpt c).or x := by cases c <;> rfl

theorem toOpt_then (c x : Ordering) : toOpt (c.then x) = (toOpt c).or (toOpt x) := by
  cases c <;> rfl

theorem toOpt_of_ne {c : Ordering} (h : c ≠ .eq) : toOpt c = some c := by
  cases c with
  | eq => exact absurd rfl h
  | _ => rfl

/-- `if x != y: return cmp(x, y)` -/
theorem ite_bne_compare (x y : Int) :
    (if (x != y) = true then some (compare x y) else none) = toOpt (intCmp x y) := by
  by_cases h : x = y
  · subst h; simp [intCmp, toOpt]
  · rw [if_pos (by simpa using h), intCmp, toOpt_of_ne (mt Int.compare_eq_eq.1 h)]

/-- `\d+` -/
def DigitStr (s : List Char) : Prop := s ≠ [] ∧ ∀ c ∈ s, c.isDigit = true

theorem zero_lt_of_digit_ne_zero {c : Char} (hd : c.isDigit = true) (h0 : c ≠ '0') :
    charCmp '0' c = .lt :=
  Nat.compare_eq_lt.2 (Nat.lt_of_le_of_ne (Char.isDigit_iff_toNat.1 hd).1
    fun h => h0 (Char.toNat_inj.1 h.symm))

/-! ### `int`: `natOfDigits s` is `Nat.ofDigitChars 10 s 0` by definition -/

theorem natOfDigits_zero_cons (s : List Char) : natOfDigits ('0' :: s) = natOfDigits s := by
  simp [natOfDigits]

theorem natOfDigits_inj {s t : List Char} (hs : DigitStr s) (ht : DigitStr t)
    (zs : s.head? ≠ some '0') (zt : t.head? ≠ some '0') (h : natOfDigits s = natOfDigits t) :
    s = t :=
  ofDigitChars_inj hs.1 ht.1 hs.2 ht.2 (absurd · zs) (absurd · zt) h

theorem natOfDigits_pos (s : List Char) (hs : DigitStr s) (z : s.head? ≠ some '0') :
    0 < natOfDigits s := by
  refine Nat.pos_of_ne_zero fun h0 => z ?_
  -- the numeral of `0` starts with `0`
  have h : Nat.toDigits 10 (natOfDigits s) = s := toDigits_ofDigitChars s hs.1 hs.2 (absurd · z)
  rw [← h, h0]
  rfl

/-! ### one dotted component: the comparison of the code is rule 3.3 -/

theorem rstrip0_cons (c : Char) (cs : List Char) :
    (c = '0' ∧ rstrip0 (c :: cs) = []) ∨ ∃ t, rstrip0 (c :: cs) = c :: t := by
  simp only [rstrip0]
  cases rstrip0 cs with
  | nil => by_cases h : c = '0' <;> simp [h]
  | cons r rs => simp

theorem strCmp_zero_led {s t : List Char} (hs : s.head? = some '0') (ht : DigitStr t)
    (hz : t.head? ≠ some '0') : strCmp (rstrip0 s) (rstrip0 t) = .lt := by
  obtain ⟨t1, rfl⟩ := List.head?_eq_some_iff.1 hs
  obtain ⟨c, t2, rfl⟩ := List.exists_cons_of_ne_nil ht.1
  have h0 : c ≠ '0' := fun e => hz (by rw [e]; rfl)
  obtain ⟨t, ht'⟩ := (rstrip0_cons c t2).resolve_left fun h => h0 h.1
  rw [ht']
  rcases rstrip0_cons '0' t1 with ⟨_, h⟩ | ⟨u, hu⟩
  · rw [h]; rfl
  · rw [hu]; simp only [strCmp, lexList, zero_lt_of_digit_ne_zero (ht.2 c List.mem_cons_self) h0]; rfl

theorem compKey_zero {s : List Char} (h : s.head? = some '0') : compKey s = (0, rstrip0 s, 0) := by
  rw [compKey, h]; rfl

theorem compKey_nonzero {s : List Char} (h : s.head? ≠ some '0') :
    compKey s = (1, [], natOfDigits s) := by
  rw [compKey, if_neg (by simpa using h)]

theorem strCmp_self (s : List Char) : strCmp s s = .eq := ReflCmp.compare_self

theorem compPair_eq (v1 v2 : List Char) (h1 : DigitStr v1) (h2 : DigitStr v2) :
    compPair v1 v2 = compCmp (compKey v1) (compKey v2) := by
  by_cases z1 : v1.head? = some '0' <;> by_cases z2 : v2.head? = some '0'
  · rw [compPair, if_neg (by simp [z1]), compKey_zero z1, compKey_zero z2]
    exact Ordering.then_eq.symm
  · rw [compPair, if_neg (by simp [z1]), compKey_zero z1, compKey_nonzero z2,
      strCmp_zero_led z1 h2 z2]
    rfl
  · rw [compPair, if_neg (by simp [z2]), compKey_nonzero z1, compKey_zero z2,
      OrientedCmp.eq_swap (cmp := strCmp), strCmp_zero_led z2 h1 z1]
    rfl
  · rw [compPair, if_pos (by simp [z1, z2]), compKey_nonzero z1, compKey_nonzero z2]
    rfl

/-- the length test after the `zip` loop -/
def lenStep (l1 l2 : List (List Char)) : Option Ordering :=
  if l1.length > l2.length then some .gt
  else if l2.length > l1.length then some .lt
  else none

theorem lenStep_cons (a b : List Char) (l1 l2 : List (List Char)) :
    lenStep (a :: l1) (b :: l2) = lenStep l1 l2 := by
  simp [lenStep]

theorem compLoop_spec (l1 l2 : List (List Char))
    (h1 : ∀ v ∈ l1, DigitStr v) (h2 : ∀ v ∈ l2, DigitStr v) :
    (compLoop l1 l2).or (lenStep l1 l2)
      = toOpt (lexList compCmp (l1.map compKey) (l2.map compKey)) := by
  induction l1 generalizing l2 with
  | nil => cases l2 <;> rfl
  | cons v1 r1 ih =>
    cases l2 with
    | nil => rfl
    | cons v2 r2 =>
      obtain ⟨d1, t1⟩ := List.forall_mem_cons.1 h1
      obtain ⟨d2, t2⟩ := List.forall_mem_cons.1 h2
      rw [List.map_cons, List.map_cons, lexList, toOpt_then, ← ih r2 t1 t2, lenStep_cons,
        ← compPair_eq v1 v2 d1 d2, ← Option.or_assoc]
      simp only [compLoop, ite_ne_toOpt]
      by_cases he : v1 = v2
      · -- the shortcut for equal components: they compare equal anyway
        subst he
        rw [if_pos (beq_self_eq_true v1), compPair_eq v1 v1 d1 d1,
          ReflCmp.compare_self (cmp := compCmp)]
        rfl
      · rw [if_neg (by simpa using he)]

theorem dotted_spec (h1 h2 : List Char)
    (hd1 : ∀ v ∈ (stripLetter (splitList '.' h1)).1, DigitStr v)
    (hd2 : ∀ v ∈ (stripLetter (splitList '.' h2)).1, DigitStr v) :
    dotted h1 h2 = toOpt ((lexList compCmp ((stripLetter (splitList '.' h1)).1.map compKey)
        ((stripLetter (splitList '.' h2)).1.map compKey)).then
      (intCmp (stripLetter (splitList '.' h1)).2 (stripLetter (splitList '.' h2)).2)) := by
  rw [toOpt_then, ← compLoop_spec _ _ hd1 hd2, Option.or_assoc]
  simp only [dotted, lenStep, ite_bne_compare]
  generalize compLoop _ _ = o
  cases o with
  | some c => rfl
  | none =>
    dsimp only
    rw [Option.none_or]
    split
    · rfl
    · split <;> rfl

theorem stripPrefix_eq (name p rest : List Char) (h : stripPrefix name p = some rest) :
    p = name ++ rest := by
  induction name generalizing p with
  | nil => simpa [stripPrefix] using h
  | cons n ns ih =>
    cases p with
    | nil => simp [stripPrefix] at h
    | cons c cs =>
      simp only [stripPrefix] at h
      split at h
      · next e => rw [← eq_of_beq e, ih cs h]; rfl
      · exact absurd h (by simp)

theorem sufKey_append (name rest : List Char) (hn : ∀ c ∈ name, c.isAlpha = true)
    (hr : rest.all Char.isDigit = true) :
    sufKey (name ++ rest) = (sufRank name, natOfDigits rest) := by
  rw [sufKey, List.takeWhile_append_of_pos hn, List.dropWhile_append_of_pos hn]
  cases rest with
  | nil => rw [List.takeWhile_nil, List.dropWhile_nil, List.append_nil]
  | cons c cs =>
    have hc : ¬ c.isAlpha = true := by
      simp [digit_not_alpha (List.all_eq_true.1 hr c List.mem_cons_self)]
    rw [List.takeWhile_cons_of_neg hc, List.dropWhile_cons_of_neg hc, List.append_nil]

def EntryOK (e : List Char × Int) : Prop :=
  (∀ c ∈ e.1, c.isAlpha = true) ∧ sufRank e.1 = e.2 ∧ e.2 ≠ 0

instance (e : List Char × Int) : Decidable (EntryOK e) := by unfold EntryOK; infer_instance

theorem sufMatchIn_some (tbl : List (List Char × Int)) (htbl : ∀ e ∈ tbl, EntryOK e)
    (p : List Char) (name : List Char) (val : Int) (digits : List Char)
    (h : sufMatchIn tbl p = some (name, val, digits)) :
    sufKey p = (val, natOfDigits digits) ∧ val ≠ 0 ∧ (name, val) ∈ tbl := by
  induction tbl with
  | nil => simp [sufMatchIn] at h
  | cons e more ih =>
    obtain ⟨nm, v⟩ := e
    have later : sufMatchIn more p = some (name, val, digits) →
        sufKey p = (val, natOfDigits digits) ∧ val ≠ 0 ∧ (name, val) ∈ (nm, v) :: more := fun h' =>
      (ih (List.forall_mem_cons.1 htbl).2 h').imp_right (·.imp_right (List.mem_cons_of_mem _))
    obtain ⟨hn, hrk, hv0⟩ := (List.forall_mem_cons.1 htbl).1
    simp only [sufMatchIn] at h
    split at h
    · next rest hs =>
      split at h
      · next hr =>
        obtain ⟨rfl, rfl, rfl⟩ : nm = name ∧ v = val ∧ rest = digits := by simpa using h
        rw [stripPrefix_eq nm p rest hs, sufKey_append nm rest hn hr, hrk]
        exact ⟨rfl, hv0, List.mem_cons_self⟩
      · exact later h
    · exact later h

/-- `suffix_value` holds the ranks of Algorithm 3.6, none of them `0`, each under one name -/
theorem sufNames_table : (∀ e ∈ sufNames, EntryOK e)
    ∧ ∀ e1 ∈ sufNames, ∀ e2 ∈ sufNames, e1.2 = e2.2 → e1.1 = e2.1 := by decide +kernel

/-- a part that `suffix_regexp` matches -/
def SufOK (p : List Char) : Prop := (sufMatch p).isSome = true

theorem sufOK_match (p : List Char) (h : SufOK p) : ∃ name val digits,
    sufMatchIn sufNames p = some (name, val, digits)
    ∧ sufKey p = (val, natOfDigits digits) ∧ val ≠ 0 ∧ (name, val) ∈ sufNames := by
  simp only [SufOK, sufMatch, Option.isSome_map] at h
  obtain ⟨⟨name, val, digits⟩, hm⟩ := Option.isSome_iff_exists.1 h
  exact ⟨name, val, digits, hm, sufMatchIn_some sufNames sufNames_table.1 p name val digits hm⟩

theorem suf_eq_sufKey (p : List Char) (h : SufOK p) : suf p = sufKey p ∧ (sufKey p).1 ≠ 0 := by
  obtain ⟨name, val, digits, hm, hk, h0, _⟩ := sufOK_match p h
  simp only [suf, sufMatch, hm, Option.map_some, natOfDigits_zero_cons, hk]
  exact ⟨trivial, h0⟩

theorem sufLoop_spec (ps qs : List (List Char))
    (hp : ∀ p ∈ ps, SufOK p) (hq : ∀ q ∈ qs, SufOK q) :
    sufLoop ps qs = toOpt (padLex sufCmp Suf.pad (ps.map sufKey) (qs.map sufKey)) := by
  -- a suffix against the end of the other list: its rank, never `0`, decides
  have one : ∀ (k : Suf) (x : Ordering), k.1 ≠ 0 →
      (if (k.1 != 0) = true then some (compare 0 k.1) else some (compare 0 k.2))
        = toOpt ((sufCmp Suf.pad k).then x)
      ∧ (if (k.1 != 0) = true then some (compare k.1 0) else some (compare k.2 0))
        = toOpt ((sufCmp k Suf.pad).then x) := by
    intro k x h0
    rw [if_pos (by simpa using h0), if_pos (by simpa using h0), toOpt_then, toOpt_then]
    simp only [sufCmp, lexPair, Suf.pad, intCmp, toOpt_then]
    rw [toOpt_of_ne (mt Int.compare_eq_eq.1 (Ne.symm h0)), toOpt_of_ne (mt Int.compare_eq_eq.1 h0)]
    exact ⟨rfl, rfl⟩
  induction ps generalizing qs with
  | nil =>
    cases qs with
    | nil => simp only [sufLoop, List.map_nil, padLex]; rfl
    | cons q qs =>
      obtain ⟨e, h0⟩ := suf_eq_sufKey q (hq q List.mem_cons_self)
      simp only [sufLoop, e, List.map_nil, List.map_cons, padLex]
      exact (one _ _ h0).1
  | cons p ps ih =>
    obtain ⟨hp, tp⟩ := List.forall_mem_cons.1 hp
    obtain ⟨e1, h1⟩ := suf_eq_sufKey p hp
    cases qs with
    | nil =>
      simp only [sufLoop, e1, List.map_nil, List.map_cons, padLex]
      exact (one _ _ h1).2
    | cons q qs =>
      obtain ⟨hq, tq⟩ := List.forall_mem_cons.1 hq
      simp only [sufLoop, e1, (suf_eq_sufKey q hq).1, ite_ne_toOpt, ih qs tp tq, List.map_cons,
        padLex, toOpt_then, sufCmp, lexPair, intCmp, natCmp, Option.or_assoc]
      by_cases he : p = q
      · subst he
        rw [if_pos (beq_self_eq_true p),
          ReflCmp.compare_self (cmp := (compare : Int → Int → Ordering)),
          ReflCmp.compare_self (cmp := (compare : Nat → Nat → Ordering))]
        rfl
      · rw [if_neg (by simpa using he)]

/-! ### the letter: off the dotted string (`get_hash_key`) or off the last component (`vercmp`) -/

/-- `ord(letter)` or `-1`, read on the whole dotted string -/
def letterInt (h : List Char) : Int :=
  match h.getLast? with
  | some c => if c.isAlpha then c.toNat else -1
  | none => -1

theorem splitLetter_cons (c d : Char) (ds : List Char) :
    (splitLetter (c :: d :: ds)).2 = c :: (splitLetter (d :: ds)).2
    ∧ letterInt (c :: d :: ds) = letterInt (d :: ds) := by
  simp only [splitLetter, letterInt, List.getLast?_cons_cons, List.dropLast_cons_cons]
  cases (d :: ds).getLast? with
  | none => simp
  | some x => by_cases hx : x.isAlpha = true <;> simp [hx]

theorem splitList_eq_cons (sep d : Char) (ds : List Char) :
    ∃ x xs, splitList sep (d :: ds) = x :: xs ∧ (x, xs) ≠ ([], []) := by
  refine ⟨_, _, rfl, ?_⟩
  rw [splitOn]
  split <;> simp

theorem splitList_cons (sep c : Char) (cs : List Char) :
    splitList sep (c :: cs) = if (c == sep) = true then [] :: splitList sep cs
      else (splitList sep cs).modifyHead (c :: ·) := by
  simp only [splitList, splitOn]
  split <;> rfl

theorem stripLetter_cons_cons (x y : List Char) (ys : List (List Char)) :
    stripLetter (x :: y :: ys) = (x :: (stripLetter (y :: ys)).1, (stripLetter (y :: ys)).2) := rfl

theorem stripLetter_single (x : List Char) :
    stripLetter [x] = ([(splitLetter x).2], letterInt x) := by
  simp only [stripLetter, splitLetter, letterInt]
  cases x.getLast? with
  | none => rfl
  | some c => by_cases hc : c.isAlpha = true <;> simp [hc]

theorem stripLetter_modifyHead (c : Char) (x : List Char) (xs : List (List Char))
    (h : (x, xs) ≠ ([], [])) :
    stripLetter ((c :: x) :: xs)
      = ((stripLetter (x :: xs)).1.modifyHead (c :: ·), (stripLetter (x :: xs)).2) := by
  cases xs with
  | cons y ys => rfl
  | nil =>
    cases x with
    | nil => exact absurd rfl h
    | cons d ds =>
      rw [stripLetter_single, stripLetter_single, (splitLetter_cons c d ds).1,
        (splitLetter_cons c d ds).2]
      rfl

theorem stripLetter_splitList (h : List Char) :
    stripLetter (splitList '.' h) = (splitList '.' (splitLetter h).2, letterInt h) := by
  induction h with
  | nil => rfl
  | cons c cs ih =>
    cases cs with
    | nil =>
      by_cases hc : (c == '.') = true
      · rw [eq_of_beq hc]; rfl
      · have e : splitList '.' [c] = [[c]] := by simp [splitList, splitOn, hc]
        rw [e, stripLetter_single]
        simp only [splitLetter, List.getLast?_singleton, List.dropLast_singleton]
        split
        · rfl
        · rw [e]
    | cons d ds =>
      obtain ⟨x, xs, e, hne⟩ := splitList_eq_cons '.' d ds
      rw [(splitLetter_cons c d ds).1, (splitLetter_cons c d ds).2, splitList_cons '.' c,
        splitList_cons '.' c]
      split
      · rw [e, stripLetter_cons_cons, ← e, ih]
      · rw [e, List.modifyHead_cons, stripLetter_modifyHead c x xs hne, ← e, ih]

/-- the letter of `get_hash_key` is the one whose `ord` `vercmp` compares -/
theorem splitLetter_fst (h : List Char) :
    (splitLetter h).1 = if letterInt h = -1 then [] else [Char.ofNat (letterInt h).toNat] := by
  rw [splitLetter, letterInt]
  cases h.getLast? with
  | none => rfl
  | some c =>
    by_cases hc : c.isAlpha = true
    · simp only [hc, if_true]
      rw [if_neg (by omega), Int.toNat_natCast, Char.ofNat_toNat]
    · simp only [hc, Bool.false_eq_true, if_false]
      rfl

/-- the components are a `split`, which has a first piece -/
theorem comps_cons (r : Raw) : ∃ f t, (pieces r).comps = f :: t :=
  ⟨_, _, congrArg Prod.fst (stripLetter_splitList _)⟩

/-- what `gentoo.is_valid` establishes for the value -/
def Valid (r : Raw) : Prop := matchVersion (parseVR r).1 = true

instance (r : Raw) : Decidable (Valid r) := by unfold Valid; infer_instance

/-- what `AlpineLinuxVersion.is_valid` establishes -/
def ValidAlpine (r : Raw) : Prop := isValidAlpine r = true ∧ Valid r

instance (r : Raw) : Decidable (ValidAlpine r) := by unfold ValidAlpine; infer_instance

theorem valid_ne_nil (r : Raw) (h : Valid r) : r ≠ [] := by
  rintro rfl
  revert h
  decide

theorem valid_comps (r : Raw) (h : Valid r) : ∀ v ∈ (pieces r).comps, DigitStr v := by
  simp only [Valid, matchVersion, Bool.and_eq_true, matchHead, List.all_eq_true] at h
  intro v hv
  simpa [DigitStr] using h.1 v hv

theorem valid_sufs (r : Raw) (h : Valid r) : ∀ p ∈ (pieces r).sufs, SufOK p := by
  simp only [Valid, matchVersion, Bool.and_eq_true, List.all_eq_true] at h
  exact h.2

/-! ### construction and `str` (C11) -/

/-- what the constructors establish for the value -/
def WellFormed (r : Raw) : Prop :=
  Valid r ∧ (∀ c ∈ r, isWs c = false) ∧ (∀ c, r.head? = some c → isV c = false)

instance (r : Raw) : Decidable (WellFormed r) := by
  unfold WellFormed; cases r <;> infer_instance

theorem normalize_noWs (s : List Char) : ∀ c ∈ normalize s, isWs c = false := by
  intro c hc
  have := (List.dropWhile_sublist isV).subset hc
  simp only [removeSpaces, List.mem_filter] at this
  simpa using this.2

theorem removeSpaces_of_noWs (r : List Char) (h : ∀ c ∈ r, isWs c = false) : removeSpaces r = r :=
  List.filter_eq_self.2 (fun c hc => by rw [h c hc]; rfl)

theorem normalize_head (s : List Char) : ∀ c, (normalize s).head? = some c → isV c = false := by
  intro c hc
  have := List.head?_dropWhile_not isV (removeSpaces s)
  rwa [← normalize, hc] at this

theorem isValid_iff (r : Raw) (h : ∀ c ∈ r, isWs c = false) : isValid r = true ↔ Valid r := by
  rw [isValid, removeSpaces_of_noWs r h, Valid]

theorem normalize_of_wf (r : Raw) (h : WellFormed r) : normalize r = r := by
  obtain ⟨_, hws, hv⟩ := h
  rw [normalize, removeSpaces_of_noWs r hws]
  cases r with
  | nil => rfl
  | cons c cs => rw [List.dropWhile_cons_of_neg (by simp [hv c rfl])]

theorem ite_ok_iff {ε α} {c : Prop} [Decidable c] (e : ε) (n r : α) :
    (if c then Except.ok n else Except.error e) = .ok r ↔ c ∧ n = r := by
  by_cases h : c <;> simp [h]

theorem construct_ok (s : List Char) (r : Raw) :
    construct s = .ok r ↔ isValid (normalize s) = true ∧ normalize s = r := by
  rw [construct, ite_ok_iff]

theorem constructAlpine_ok (s : List Char) (r : Raw) :
    constructAlpine s = .ok r ↔ construct s = .ok r ∧ isValidAlpine r = true := by
  rw [construct_ok, constructAlpine, ite_ok_iff, Bool.and_eq_true]
  constructor
  · rintro ⟨⟨ha, hv⟩, rfl⟩; exact ⟨⟨hv, rfl⟩, ha⟩
  · rintro ⟨⟨hv, rfl⟩, ha⟩; exact ⟨⟨ha, hv⟩, rfl⟩

theorem construct_wf (s : List Char) (r : Raw) (h : construct s = .ok r) : WellFormed r := by
  obtain ⟨hv, rfl⟩ := (construct_ok s r).1 h
  exact ⟨(isValid_iff _ (normalize_noWs s)).1 hv, normalize_noWs s, normalize_head s⟩

theorem constructAlpine_wf (s : List Char) (r : Raw) (h : constructAlpine s = .ok r) :
    WellFormed r ∧ isValidAlpine r = true :=
  ((constructAlpine_ok s r).1 h).imp_left (construct_wf s r)

theorem constructAlpine_construct (s : List Char) (r : Raw) (h : constructAlpine s = .ok r) :
    construct s = .ok r :=
  ((constructAlpine_ok s r).1 h).1

/-- C11: `GentooVersion(str(v))` rebuilds the same value -/
theorem str_roundtrip (r : Raw) (h : WellFormed r) : construct (str r) = .ok r := by
  rw [str, construct_ok, normalize_of_wf r h]
  exact ⟨(isValid_iff r h.2.1).2 h.1, rfl⟩

/-- C11 for `AlpineLinuxVersion` -/
theorem str_roundtrip_alpine (r : Raw) (h : WellFormed r) (ha : isValidAlpine r = true) :
    constructAlpine (str r) = .ok r :=
  (constructAlpine_ok r r).2 ⟨str_roundtrip r h, ha⟩

/-- `is_valid` lets anything follow the revision, and `vercmp` ignores it:
`GentooVersion("1.0-r1abc")` is accepted and `== GentooVersion("1.0-r1")` -/
theorem trailing_garbage_accepted :
    construct "1.0-r1abc".toList = .ok "1.0-r1abc".toList
    ∧ verOps.eq "1.0-r1abc".toList "1.0-r1".toList = true
    ∧ verOps.eq "1.0-r1_p1".toList "1.0-r1".toList = true := by
  -- decoding a string literal in the kernel is dear: `String.toList_ofList` hands the characters
  -- over (a literal unifies with `String.ofList _`)
  rw [String.toList_ofList, String.toList_ofList, String.toList_ofList]
  exact ⟨str_roundtrip _ (by decide +kernel), by decide +kernel, by decide +kernel⟩

/-! ### refinement against the key of the code -/

theorem lexPair_fst_self {α β} (c1 : α → α → Ordering) (c2 : β → β → Ordering) [ReflCmp c1]
    (x : α) (y y' : β) : lexPair c1 c2 (x, y) (x, y') = c2 y y' := by
  simp only [lexPair, ReflCmp.compare_self (cmp := c1)]
  rfl

/-- the test in front of `dotted` changes nothing: equal strings compare equal there -/
theorem ite_bne_dotted (h1 h2 : List Char)
    (hd : ∀ v ∈ (stripLetter (splitList '.' h2)).1, DigitStr v) :
    (if (h1 != h2) = true then dotted h1 h2 else none) = dotted h1 h2 := by
  by_cases hh : h1 = h2
  · rw [if_neg (by simp [hh]), hh, dotted_spec _ _ hd hd,
      ReflCmp.compare_self (cmp := lexList compCmp), ReflCmp.compare_self (cmp := intCmp)]
    rfl
  · rw [if_pos (by simpa using hh)]

theorem vercmp_eq_keyC (a b : Raw) (ha : Valid a) (hb : Valid b) :
    vercmp a b = keyCmpC (keyC a) (keyC b) := by
  have hea : a.isEmpty = false := by simpa using valid_ne_nil a ha
  have heb : b.isEmpty = false := by simpa using valid_ne_nil b hb
  simp only [vercmp, hea, heb, Bool.false_eq_true, if_false]
  by_cases hv : (parseVR a).1 = (parseVR b).1
  · -- same text in front of the revision: only the revisions are looked at
    simp only [hv, beq_self_eq_true, if_true, keyCmpC, keyC, pieces, lexPair_fst_self, natCmp]
    split
    · next h0 =>
      simp only [Bool.and_eq_true, beq_iff_eq] at h0
      rw [h0.1, h0.2]
      rfl
    · rfl
  · rw [if_neg (by simpa using hv), ite_bne_dotted _ _ (valid_comps b hb),
      dotted_spec _ _ (valid_comps a ha) (valid_comps b hb),
      sufLoop_spec (splitOn '_' (parseVR a).1).2 (splitOn '_' (parseVR b).1).2 (valid_sufs a ha)
        (valid_sufs b hb)]
    simp only [keyCmpC, keyC, pieces, lexPair, natCmp]
    -- the `match` of `vercmp` and the one of `match_toOpt₂` are different constants: they are
    -- unified by unfolding, which is cheap only when the compared terms are variables
    generalize lexList compCmp _ _ = A
    generalize intCmp _ _ = B
    generalize padLex sufCmp Suf.pad _ _ = S
    exact (match_toOpt₂ _ _ _).trans (Ordering.then_assoc _ _ _)

example : Valid "1.2.3a_rc1_p2-r4".toList := by
  rw [String.toList_ofList]
  decide +kernel

abbrev ValidRaw := { r : Raw // Valid r }

/-- C01: `gentoo.vercmp` is a lawful three-way comparison of valid versions -/
instance : TransCmp (cmpOn (Subtype.val : ValidRaw → Raw) vercmp) := by
  have h : cmpOn (Subtype.val : ValidRaw → Raw) vercmp = cmpOn (fun r => keyC r.1) keyCmpC := by
    funext a b
    -- `cmpOn` is unfolded by hand: left to the unifier, `vercmp` is unfolded first
    unfold cmpOn
    exact vercmp_eq_keyC a.1 b.1 a.2 b.2
  rw [h]
  infer_instance

theorem vercmp_isLE_trans (a b c : Raw) (ha : Valid a) (hb : Valid b) (hc : Valid c) :
    (vercmp a b).isLE → (vercmp b c).isLE → (vercmp a c).isLE :=
  TransCmp.isLE_trans (cmp := cmpOn (Subtype.val : ValidRaw → Raw) vercmp)
    (a := ⟨a, ha⟩) (b := ⟨b, hb⟩) (c := ⟨c, hc⟩)

/-! ### refinement against the PMS key (C03) -/

theorem zeros_spec (s : List Char) (h : s.all (· == '0') = true) :
    natOfDigits s = 0 ∧ rstrip0 s = [] := by
  induction s with
  | nil => exact ⟨rfl, rfl⟩
  | cons c cs ih =>
    obtain ⟨rfl, h2⟩ : c = '0' ∧ cs.all (· == '0') = true := by simpa using h
    obtain ⟨hn, hr⟩ := ih h2
    exact ⟨by rw [natOfDigits_zero_cons, hn], by rw [rstrip0, hr]; rfl⟩

def CanonFirst (f : List Char) : Bool := f.head? != some '0' || f.all (· == '0')

theorem compKey_canon (f : List Char) (hd : DigitStr f) (hc : CanonFirst f = true) :
    (compKey f = (1, [], natOfDigits f) ∧ 0 < natOfDigits f) ∨
    (compKey f = (0, [], 0) ∧ natOfDigits f = 0) := by
  by_cases hz : f.head? = some '0'
  · have hall : f.all (· == '0') = true := by simpa [CanonFirst, hz] using hc
    exact .inr ⟨by rw [compKey_zero hz, (zeros_spec f hall).2], (zeros_spec f hall).1⟩
  · exact .inl ⟨compKey_nonzero hz, natOfDigits_pos _ hd hz⟩

theorem compCmp_canon (f1 f2 : List Char) (h1 : DigitStr f1) (h2 : DigitStr f2)
    (c1 : CanonFirst f1 = true) (c2 : CanonFirst f2 = true) :
    compCmp (compKey f1) (compKey f2) = natCmp (natOfDigits f1) (natOfDigits f2) := by
  rcases compKey_canon f1 h1 c1 with ⟨k1, p1⟩ | ⟨k1, p1⟩ <;>
  rcases compKey_canon f2 h2 c2 with ⟨k2, p2⟩ | ⟨k2, p2⟩ <;> rw [k1, k2]
  · rfl
  · rw [p2]; exact (Nat.compare_eq_gt.2 p1).symm
  · rw [p1]; exact (Nat.compare_eq_lt.2 p2).symm
  · rw [p1, p2]; rfl

theorem keyCmp_eq_keyCmpC (a b : Raw) (ha : Valid a) (hb : Valid b)
    (fa : FirstOK a = true) (fb : FirstOK b = true) :
    keyCmp (key a) (key b) = keyCmpC (keyC a) (keyC b) := by
  have hca := valid_comps a ha
  have hcb := valid_comps b hb
  simp only [FirstOK] at fa fb
  simp only [keyCmp, keyCmpC, key, keyC, lexPair]
  obtain ⟨f1, r1, e1⟩ := comps_cons a
  obtain ⟨f2, r2, e2⟩ := comps_cons b
  rw [e1] at hca fa ⊢
  rw [e2] at hcb fb ⊢
  rw [List.map_cons, List.map_cons, lexList, Ordering.then_assoc,
    compCmp_canon f1 f2 (hca f1 List.mem_cons_self) (hcb f2 List.mem_cons_self) fa fb]
  rfl

/-- C03, partial: on valid versions whose first component has no superfluous leading
zero, `gentoo.vercmp` orders by the PMS §3.3 key -/
theorem vercmp_eq_key_partial (a b : Raw) (ha : Valid a) (hb : Valid b)
    (fa : FirstOK a = true) (fb : FirstOK b = true) :
    vercmp a b = keyCmp (key a) (key b) := by
  rw [keyCmp_eq_keyCmpC a b ha hb fa fb, vercmp_eq_keyC a b ha hb]

example : Valid "0.10.2a_rc1-r3".toList ∧ FirstOK "0.10.2a_rc1-r3".toList = true := by
  rw [String.toList_ofList]
  decide +kernel

/-- the code applies rule 3.3 to the FIRST component too, PMS compares the first components as
integers: `010 < 10` in the code, `010 = 10` in PMS -/
theorem vercmp_eq_key_counterexample :
    Valid "010".toList ∧ Valid "10".toList ∧ vercmp "010".toList "10".toList = .lt
    ∧ keyCmp (key "010".toList) (key "10".toList) = .eq := by
  rw [String.toList_ofList, String.toList_ofList]
  exact ⟨by decide +kernel, by decide +kernel, by decide +kernel,
    ReflCmp.compare_self (cmp := keyCmp) (a := (10, [], -1, [], 0))⟩

/-- same for Alpine, whose extra check lets a zero-led first component through when a letter or a
suffix follows it directly: `01a < 1a` in the code, equal in PMS -/
theorem vercmp_eq_key_counterexample_alpine :
    constructAlpine "01a".toList = .ok "01a".toList ∧ constructAlpine "1a".toList = .ok "1a".toList
    ∧ constructAlpine "01".toList = .error .invalid
    ∧ vercmp "01a".toList "1a".toList = .lt
    ∧ keyCmp (key "01a".toList) (key "1a".toList) = .eq := by
  rw [String.toList_ofList, String.toList_ofList, String.toList_ofList]
  exact ⟨str_roundtrip_alpine _ (by decide +kernel) (by decide +kernel),
    str_roundtrip_alpine _ (by decide +kernel) (by decide +kernel), by rfl, by decide +kernel,
    ReflCmp.compare_self (cmp := keyCmp) (a := (1, [], 97, [], 0))⟩

/-- C02: the six operators of `GentooVersion` / `AlpineLinuxVersion` are the ones induced by
`gentoo.vercmp` -/
theorem verOps_lawful : Lawful verOps vercmp := Py.lawful_opsOfSign vercmp

/-! ### hash (C12) -/

theorem charCmp_eq_eq (a b : Char) (h : charCmp a b = .eq) : a = b :=
  Char.toNat_inj.1 (Nat.compare_eq_eq.1 h)

theorem compCmp_eq_eq (a b : Comp) (h : compCmp a b = .eq) : a = b := by
  obtain ⟨a1, a2, a3⟩ := a
  obtain ⟨b1, b2, b3⟩ := b
  simp only [compCmp, lexPair, Ordering.then_eq_eq, natCmp, Nat.compare_eq_eq] at h
  rw [h.1, lexList_eq_eq charCmp_eq_eq _ _ h.2.1, h.2.2]

theorem sufCmp_eq_eq (a b : Suf) (h : sufCmp a b = .eq) : a = b := by
  obtain ⟨a1, a2⟩ := a
  obtain ⟨b1, b2⟩ := b
  simp only [sufCmp, lexPair, Ordering.then_eq_eq, natCmp, intCmp, Nat.compare_eq_eq,
    Int.compare_eq_eq] at h
  rw [h.1, h.2]

theorem map_eq_of_map_eq {α β γ} (f : α → β) (g : α → γ) (P : α → Prop)
    (hfg : ∀ x y, P x → P y → f x = f y → g x = g y)
    (l1 l2 : List α) (h1 : ∀ x ∈ l1, P x) (h2 : ∀ x ∈ l2, P x) (h : l1.map f = l2.map f) :
    l1.map g = l2.map g := by
  induction l1 generalizing l2 with
  | nil => rw [List.map_eq_nil_iff.1 h.symm]
  | cons x xs ih =>
    cases l2 with
    | nil => cases h
    | cons y ys =>
      obtain ⟨p1, t1⟩ := List.forall_mem_cons.1 h1
      obtain ⟨p2, t2⟩ := List.forall_mem_cons.1 h2
      obtain ⟨hx, ht⟩ := List.cons.inj h
      rw [List.map_cons, List.map_cons, hfg x y p1 p2 hx, ih ys t1 t2 ht]

theorem filterMap_eq_of_map_eq {α γ} {g : α → Option γ} {l1 l2 : List α} (h : l1.map g = l2.map g) :
    l1.filterMap g = l2.filterMap g := by
  have := congrArg (List.filterMap id) h
  rw [List.filterMap_map, List.filterMap_map] at this
  exact this

theorem compKey_hash (c1 c2 : List Char) (h1 : DigitStr c1) (h2 : DigitStr c2)
    (h : compKey c1 = compKey c2) : hashComp c1 = hashComp c2 := by
  by_cases z1 : c1.head? = some '0' <;> by_cases z2 : c2.head? = some '0'
  · rw [compKey_zero z1, compKey_zero z2] at h
    rw [hashComp, hashComp, if_pos (by simp [z1]), if_pos (by simp [z2])]
    exact (Prod.mk.inj (Prod.mk.inj h).2).1
  · rw [compKey_zero z1, compKey_nonzero z2] at h
    exact absurd (Prod.mk.inj h).1 (by decide)
  · rw [compKey_nonzero z1, compKey_zero z2] at h
    exact absurd (Prod.mk.inj h).1 (by decide)
  · rw [compKey_nonzero z1, compKey_nonzero z2] at h
    rw [hashComp, hashComp, if_neg (by simp [z1]), if_neg (by simp [z2])]
    exact natOfDigits_inj h1 h2 z1 z2 (Prod.mk.inj (Prod.mk.inj h).2).2

theorem hashSuf_of_key (p q : List Char) (hp : SufOK p) (hq : SufOK q) (h : sufKey p = sufKey q) :
    hashSuf p = hashSuf q := by
  obtain ⟨n1, v1, d1, m1, k1, _, t1⟩ := sufOK_match p hp
  obtain ⟨n2, v2, d2, m2, k2, _, t2⟩ := sufOK_match q hq
  rw [k1, k2, Prod.mk.injEq] at h
  rw [hashSuf, hashSuf, m1, m2, Option.map_some, Option.map_some, natOfDigits_zero_cons,
    natOfDigits_zero_cons, sufNames_table.2 _ t1 _ t2 h.1, h.2]

theorem pad_not_mem_sufKey (l : List (List Char)) (hl : ∀ p ∈ l, SufOK p) :
    Suf.pad ∉ l.map sufKey := by
  intro hx
  obtain ⟨p, hp, e⟩ := List.mem_map.1 hx
  exact (suf_eq_sufKey p (hl p hp)).2 (by rw [e]; rfl)

/-- `get_hash_key` takes the letter off before it splits at the dots, `vercmp` after: the pieces
are the same -/
theorem hashKey_pieces (r : Raw) :
    hashKey r = ((pieces r).comps.map hashComp,
      (if (pieces r).letter = -1 then [] else [Char.ofNat (pieces r).letter.toNat]),
      (pieces r).sufs.filterMap hashSuf, (pieces r).rev) := by
  simp only [hashKey, pieces, stripLetter_splitList, splitLetter_fst]

/-- C12: on valid versions `==` implies equal hash keys -/
theorem eq_imp_hash (a b : Raw) (ha : Valid a) (hb : Valid b) :
    verOps.eq a b = true → hashKey a = hashKey b := by
  intro h
  have hv : vercmp a b = .eq := by simpa [verOps] using h
  rw [vercmp_eq_keyC a b ha hb] at hv
  simp only [keyCmpC, keyC, lexPair, Ordering.then_eq_eq, natCmp, intCmp, Nat.compare_eq_eq,
    Int.compare_eq_eq] at hv
  obtain ⟨h1, h2, h3, h4⟩ := hv
  have hsa := valid_sufs a ha
  have hsb := valid_sufs b hb
  have e1 : (pieces a).comps.map compKey = (pieces b).comps.map compKey :=
    lexList_eq_eq compCmp_eq_eq _ _ h1
  have e3 : (pieces a).sufs.map sufKey = (pieces b).sufs.map sufKey :=
    padLex_eq_eq sufCmp_eq_eq _ _ (pad_not_mem_sufKey _ hsa) (pad_not_mem_sufKey _ hsb) h3
  rw [hashKey_pieces, hashKey_pieces, h2, h4,
    map_eq_of_map_eq compKey hashComp DigitStr compKey_hash _ _ (valid_comps a ha) (valid_comps b hb)
      e1,
    filterMap_eq_of_map_eq (map_eq_of_map_eq sufKey hashSuf SufOK hashSuf_of_key _ _ hsa hsb e3)]

theorem hashable_true : hashable = true := rfl

/-- the examples of the docstring of `get_hash_key` -/
example : hashKey "1.0".toList = hashKey "1.00".toList
    ∧ hashKey "1.2b_p-r0".toList = hashKey "1.2b_p0".toList
    ∧ (hashKey "1.10".toList).1 ≠ (hashKey "1.1".toList).1 := by
  repeat rw [String.toList_ofList]
  exact ⟨by decide +kernel, by decide +kernel, by decide +kernel⟩

/-! ### examples of the PMS order, read on the key -/

section
private def kc (a b : String) : Ordering := keyCmp (key a.toList) (key b.toList)
private def okPair (a b : String) : Prop :=
  Valid a.toList ∧ Valid b.toList ∧ FirstOK a.toList = true ∧ FirstOK b.toList = true
private instance (a b : String) : Decidable (okPair a b) := by unfold okPair; infer_instance
private theorem kc_eq (a b : String) (h : okPair a b) : kc a b = vercmp a.toList b.toList :=
  (vercmp_eq_key_partial _ _ h.1 h.2.1 h.2.2.1 h.2.2.2).symm

/-- one kernel evaluation per pair of literals: both are in the domain of `kc_eq` and the code
returns `o` -/
private theorem kc_lit (a b : List Char) (o : Ordering)
    (h : (Valid a ∧ Valid b ∧ FirstOK a = true ∧ FirstOK b = true) ∧ vercmp a b = o) :
    kc (String.ofList a) (String.ofList b) = o := by
  rw [kc_eq _ _ (by simpa only [okPair, String.toList_ofList] using h.1), String.toList_ofList,
    String.toList_ofList, h.2]

example : [kc "1.0_alpha" "1.0_beta", kc "1.0_beta" "1.0_pre", kc "1.0_pre" "1.0_rc",
    kc "1.0_rc" "1.0", kc "1.0" "1.0_p", kc "1.0_p" "1.0_p1", kc "1.0" "1.0a", kc "1.0a" "1.0b",
    kc "1.0z" "1.0.1", kc "1.02" "1.1", kc "1.1" "1.10", kc "1.0" "1.0-r1", kc "1.0_rc1" "1.0_rc1_p1",
    kc "1.0_p1_rc1" "1.0_p1", kc "0.9" "1"]
    = List.replicate 15 .lt := by
  repeat rw [kc_lit _ _ .lt (by decide +kernel)]
  rfl
example : [kc "1.010" "1.01", kc "1.0" "1.0-r0", kc "1_p" "1_p0", kc "1.0" "1.00"]
    = List.replicate 4 .eq := by
  repeat rw [kc_lit _ _ .eq (by decide +kernel)]
  rfl
end

end Univers.Gentoo

section AxiomAudit
open Univers.Gentoo
#print axioms vercmp_eq_keyC
#print axioms vercmp_isLE_trans
#print axioms vercmp_eq_key_partial
#print axioms vercmp_eq_key_counterexample
#print axioms vercmp_eq_key_counterexample_alpine
#print axioms verOps_lawful
#print axioms eq_imp_hash
#print axioms stripLetter_splitList
#print axioms str_roundtrip
#print axioms str_roundtrip_alpine
#print axioms construct_wf
#print axioms constructAlpine_wf
#print axioms trailing_garbage_accepted
end AxiomAudit
