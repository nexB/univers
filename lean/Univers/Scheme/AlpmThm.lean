/-
Theorems for scheme `alpm`: `arch.vercmp` computes the vercmp(8) key order (refinement, C03),
it is a lawful comparator on versions that all have or all lack a pkgrel and NOT across the two
kinds (C01, partial + counterexample), the six operators of `ArchLinuxVersion` agree with it
(C02), `==` implies equal hash keys (C12), `str` round-trips (C11).
-/
import Univers.Scheme.AlpmSpec
import Univers.Py.AttrsThm
import Univers.Basic.PadLexEq
import Univers.Basic.Digits

namespace Univers.Alpm

open Univers Std

theorem not_digit_and_alpha (c : Char) : ¬ (c.isDigit = true ∧ c.isAlpha = true) :=
  fun h => Bool.false_ne_true ((digit_not_alpha h.1).symm.trans h.2)

theorem cls_digit {c : Char} : cls c = .digit ↔ c.isDigit = true := by
  unfold cls; cases c.isDigit <;> cases c.isAlpha <;> decide

theorem cls_alpha {c : Char} : cls c = .alpha ↔ c.isAlpha = true := by
  have := not_digit_and_alpha c
  unfold cls; revert this; cases c.isDigit <;> cases c.isAlpha <;> decide

theorem cls_other {c : Char} : cls c = .other ↔ (c.isDigit = false ∧ c.isAlpha = false) := by
  unfold cls; cases c.isDigit <;> cases c.isAlpha <;> decide

theorem isDigit_eq_cls (c : Char) : c.isDigit = (cls c == .digit) := by
  rw [Bool.eq_iff_iff, beq_iff_eq, cls_digit]

def Homog (r : Char × List Char) : Prop := ∀ x ∈ r.2, cls x = cls r.1

theorem homog_nil (c : Char) : Homog (c, []) := fun _ h => nomatch h

theorem getType_homog (d : Char) (ds : List Char) (h : ∀ x ∈ ds, cls x = cls d) :
    getType (d :: ds) = cls d := by
  simp only [getType, List.isEmpty_cons, Bool.not_false, Bool.true_and, List.all_cons]
  cases hd : cls d with
  | digit =>
    rw [cls_digit.1 hd, List.all_eq_true.2 fun x hx => cls_digit.1 ((h x hx).trans hd)]; rfl
  | alpha =>
    have hnd : d.isDigit = false := by rw [isDigit_eq_cls, hd]; rfl
    rw [hnd, cls_alpha.1 hd, List.all_eq_true.2 fun x hx => cls_alpha.1 ((h x hx).trans hd)]; rfl
  | other =>
    rw [(cls_other.1 hd).1, (cls_other.1 hd).2]; rfl

def flat (r : Char × List Char) : List Char := r.1 :: r.2

theorem runs_head (c : Char) (cs : List Char) : ∃ ds rest, runs (c :: cs) = (c, ds) :: rest := by
  rw [runs]
  split
  · exact ⟨_, _, rfl⟩
  · split <;> exact ⟨_, _, rfl⟩

theorem runs_homog (v : List Char) : ∀ r ∈ runs v, Homog r := by
  fun_induction runs v with
  | case1 => exact fun _ h => nomatch h
  | case2 c => exact List.forall_mem_cons.2 ⟨homog_nil c, fun _ h => nomatch h⟩
  | case3 c cs d ds rest h hc ih =>
    rw [h, List.forall_mem_cons] at ih
    have hc : cls d = cls c := (beq_iff_eq.1 hc).symm
    refine List.forall_mem_cons.2 ⟨fun x hx => ?_, ih.2⟩
    rcases List.mem_cons.1 hx with rfl | hx
    · exact hc
    · exact (ih.1 x hx).trans hc
  | case4 c cs d ds rest h hc ih => exact List.forall_mem_cons.2 ⟨homog_nil c, h ▸ ih⟩

theorem runs_append (v : List Char) : ∀ (d : Char) (ds : List Char), Homog (d, ds) →
    (∀ c ∈ v.head?, cls c ≠ cls d) → runs (d :: ds ++ v) = (d, ds) :: runs v
  | d, [], _, hv => by
    cases v with
    | nil => rfl
    | cons c cs =>
      obtain ⟨es, rest, hr⟩ := runs_head c cs
      rw [List.cons_append, List.nil_append, runs, hr]
      exact if_neg (by simpa using (hv c rfl).symm)
  | d, e :: es, h, hv => by
    have he : cls e = cls d := h e List.mem_cons_self
    rw [List.cons_append, runs,
      runs_append v e es (fun x hx => (h x (List.mem_cons_of_mem _ hx)).trans he.symm) (he ▸ hv)]
    simp [he]

/-- invariant of the loop of `parse`: `current` holds a run `d :: ds` of one class -/
theorem parseLoop_eq (v : List Char) : ∀ (parts : List (List Char)) (d : Char) (ds : List Char),
    Homog (d, ds) → parseLoop parts (d :: ds) v = parts ++ (runs (d :: ds ++ v)).map flat := by
  induction v with
  | nil =>
    intro parts d ds h
    rw [runs_append [] d ds h (fun _ h => nomatch h)]; rfl
  | cons c cs ih =>
    intro parts d ds h
    rw [parseLoop]
    simp only [List.isEmpty_cons, Bool.false_eq_true, if_false, getType_homog c [] (homog_nil c),
      getType_homog d ds h]
    by_cases hc : cls c = cls d
    · rw [if_pos (by simpa using hc), List.cons_append, ih parts d (ds ++ [c])]
      · simp
      · intro x hx
        rcases List.mem_append.1 hx with hx | hx
        · exact h x hx
        · rw [List.mem_singleton.1 hx]; exact hc
    · rw [if_neg (by simpa using hc), ih _ c [] (homog_nil c),
        runs_append _ d ds h (by simpa using hc)]
      simp [flat]

theorem parse_eq_runs (v : List Char) : parse v = (runs v).map flat := by
  cases v with
  | nil => rfl
  | cons c cs => exact parseLoop_eq cs [] c [] (homog_nil c)

/-- `get_type` never meets the empty string (its `assert c` cannot fire) -/
theorem parse_ne_nil (v : List Char) : ∀ p ∈ parse v, p ≠ [] := by
  rw [parse_eq_runs]
  intro p hp
  obtain ⟨r, _, rfl⟩ := List.mem_map.1 hp
  exact List.cons_ne_nil _ _

theorem ite_ne_eq_then (r x : Ordering) : (if (r != .eq) = true then r else x) = r.then x := by
  cases r <;> rfl

theorem then_eq_right (r : Ordering) : r.then .eq = r := by cases r <;> rfl

theorem rpmLoop_eq (ps : List (Char × List Char)) : ∀ (qs : List (Char × List Char)),
    (∀ r ∈ ps, Homog r) → (∀ r ∈ qs, Homog r) →
    rpmLoop (ps.map flat) (qs.map flat) = segCmp (ps.map tokOf) (qs.map tokOf) := by
  induction ps with
  | nil =>
    intro qs _ hq
    cases qs with
    | nil => simp only [List.map_nil, rpmLoop, segCmp, padLex]
    | cons q qs =>
      have hg := getType_homog q.1 q.2 (hq q List.mem_cons_self)
      simp only [List.map_nil, List.map_cons, rpmLoop, flat, hg, segCmp, padLex, tokOf]
      cases cls q.1 <;> rfl
  | cons p ps ih =>
    intro qs hp hq
    rw [List.forall_mem_cons] at hp
    have hgp := getType_homog p.1 p.2 hp.1
    cases qs with
    | nil =>
      simp only [List.map_nil, List.map_cons, rpmLoop, flat, hgp, segCmp, padLex, tokOf]
      cases cls p.1 <;> rfl
    | cons q qs =>
      rw [List.forall_mem_cons] at hq
      have hgq := getType_homog q.1 q.2 hq.1
      simp only [List.map_cons, rpmLoop, flat, hgp, hgq, segCmp, padLex, ih qs hp.2 hq.2,
        ite_ne_eq_then, tokOf]
      -- with the two classes known both sides evaluate to the same comparison, but for two
      -- alphabetic runs, where the token carries a third, constant component
      cases cls p.1 <;> cases cls q.1
      case alpha.alpha =>
        show (strCmp _ _).then _ = ((strCmp _ _).then .eq).then _
        rw [then_eq_right]
      all_goals rfl

theorem rpmvercmp_eq (v1 v2 : List Char) : rpmvercmp v1 v2 = segCmp (toks v1) (toks v2) := by
  simp only [rpmvercmp, parse_eq_runs, toks]
  exact rpmLoop_eq _ _ (runs_homog v1) (runs_homog v2)

/-! ### refinement (C03) -/

theorem ite_eq_then (r x : Ordering) : (if (r == .eq) = true then x else r) = r.then x := by
  cases r <;> rfl

/-- REFINEMENT (C03): `arch.vercmp` orders by the vercmp(8) key -/
theorem vercmp_eq_key (a b : Raw) : vercmp a b = keyCmp (key a) (key b) := by
  simp only [vercmp, ite_eq_then, keyCmp, key, lexPair, ← rpmvercmp_eq]
  congr 1
  generalize rpmvercmp (split a).2.1 (split b).2.1 = r1
  cases (split a).2.2 <;> cases (split b).2.2
  case some.some => exact congrArg r1.then (rpmvercmp_eq _ _)
  -- without a pkgrel on one side `arch.vercmp` returns `r1` again, the key `.eq`
  all_goals cases r1 <;> rfl

theorem keyCmp_eq_strict (a b : Raw) (h : hasRel a = hasRel b) :
    keyCmp (key a) (key b) = keyCmpStrict (key a) (key b) := by
  simp only [keyCmp, keyCmpStrict, key, lexPair, hasRel] at *
  congr 2
  cases h1 : (split a).2.2 <;> cases h2 : (split b).2.2 <;> simp_all [relCmp, relCmpStrict]

theorem vercmp_eq_strict (a b : Raw) (h : hasRel a = hasRel b) :
    vercmp a b = keyCmpStrict (key a) (key b) := by
  rw [vercmp_eq_key, keyCmp_eq_strict a b h]

/-! ### comparator laws (C01) -/

instance : OrientedCmp vercmp where
  eq_swap := by
    intro a b
    rw [vercmp_eq_key, vercmp_eq_key]
    exact OrientedCmp.eq_swap

/-- transitivity on versions of one kind: all with a pkgrel, or all without -/
theorem vercmp_isLE_trans_partial (a b c : Raw) (hab : hasRel a = hasRel b) (hbc : hasRel b = hasRel c) :
    (vercmp a b).isLE → (vercmp b c).isLE → (vercmp a c).isLE := by
  rw [vercmp_eq_strict a b hab, vercmp_eq_strict b c hbc, vercmp_eq_strict a c (hab.trans hbc)]
  exact TransCmp.isLE_trans

example : hasRel "1.0-1".toList = hasRel "1.0-2".toList ∧ hasRel "1.0-2".toList = hasRel "2-1".toList := by
  decide +kernel

abbrev WithRel := { r : Raw // hasRel r = true }
abbrev NoRel := { r : Raw // hasRel r = false }

/-- on versions that all have a pkgrel, or all have none, `vercmp` is a lawful comparison -/
theorem transCmp_sameRel (k : Bool) :
    TransCmp (cmpOn (Subtype.val : { r : Raw // hasRel r = k } → Raw) vercmp) where
  toOrientedCmp := cmpOn.instOriented _ _
  isLE_trans {a b c} := by
    -- `cmpOn` is unfolded by hand: left to the unifier, `vercmp` is unfolded first
    unfold cmpOn
    exact vercmp_isLE_trans_partial a.1 b.1 c.1 (a.2.trans b.2.symm) (b.2.trans c.2.symm)

instance : TransCmp (cmpOn (Subtype.val : WithRel → Raw) vercmp) := transCmp_sameRel true

instance : TransCmp (cmpOn (Subtype.val : NoRel → Raw) vercmp) := transCmp_sameRel false

/-- pacman's rule "the pkgrel counts only when both sides have one" is not transitive:
`1-2 == 1 == 1-1` but `1-2 > 1-1` -/
theorem vercmp_trans_counterexample :
    (vercmp "1-2".toList "1".toList).isLE = true ∧ (vercmp "1".toList "1-1".toList).isLE = true
    ∧ (vercmp "1-2".toList "1-1".toList).isLE = false := by decide +kernel

theorem not_transCmp_vercmp : ¬ TransCmp vercmp := fun h =>
  absurd (h.isLE_trans vercmp_trans_counterexample.1 vercmp_trans_counterexample.2.1)
    (Bool.eq_false_iff.1 vercmp_trans_counterexample.2.2)

/-- equality of versions is not transitive either: `1-1 == 1`, `1 == 1-2`, `1-1 != 1-2` -/
theorem verOps_eq_trans_counterexample :
    verOps.eq "1-1".toList "1".toList = true ∧ verOps.eq "1".toList "1-2".toList = true
    ∧ verOps.eq "1-1".toList "1-2".toList = false := by decide +kernel

/-! ### operators (C02), hash (C12), str (C11) -/

/-- C02: the six operators of `ArchLinuxVersion` are the ones induced by `arch.vercmp` -/
theorem verOps_lawful : Lawful verOps vercmp := Py.lawful_opsOfSign vercmp

theorem tokCmp_eq_eq (a b : Tok) (h : tokCmp a b = .eq) : a = b := by
  simp only [tokCmp, lexPair, Ordering.then_eq_eq, natCmp, Nat.compare_eq_eq] at h
  exact Prod.ext h.1 (Prod.ext
    (lexList_eq_eq (fun _ _ h => Char.toNat_inj.1 (Nat.compare_eq_eq.1 h)) _ _ h.2.1) h.2.2)

theorem pad_not_mem_toks (s : List Char) : Tok.pad ∉ toks s := by
  intro h
  obtain ⟨r, _, hr⟩ := List.mem_map.1 h
  unfold tokOf at hr
  split at hr <;> cases hr

theorem segCmp_toks_eq (s1 s2 : List Char) (h : segCmp (toks s1) (toks s2) = .eq) :
    toks s1 = toks s2 :=
  padLex_eq_eq tokCmp_eq_eq _ _ (pad_not_mem_toks s1) (pad_not_mem_toks s2) h

def tokNum (t : Tok) : Option Nat := if t.1 == 3 then some t.2.2 else none

theorem digitRuns_eq (s : List Char) :
    digitRuns s = ((runs s).filter (fun r => cls r.1 == .digit)).map flat := by
  induction s with
  | nil => rfl
  | cons c cs ih =>
    rw [digitRuns, runs, ih, isDigit_eq_cls]
    -- both sides are now decided by the classes of the first two characters
    cases cs with
    | nil => cases h : cls c <;> simp [runs, h, flat]
    | cons d ds =>
      obtain ⟨es, rest, hr⟩ := runs_head d ds
      rw [hr, List.head?_cons, Option.any_some, isDigit_eq_cls]
      cases hc : cls c <;> cases hd : cls d <;> simp [hc, hd, flat]

theorem numbers_eq_toks (s : List Char) : numbers s = (toks s).filterMap tokNum := by
  simp only [numbers, digitRuns_eq, toks]
  induction runs s with
  | nil => rfl
  | cons r rest ih =>
    cases h : cls r.1 <;> simp [h, tokOf, tokNum, flat, ih]

/-- C12: `==` implies equal hash keys: equal versions have the same epoch and version tokens,
and the hash key is made of the numeric ones -/
theorem eq_imp_hash (a b : Raw) : verOps.eq a b = true → hashKey a = hashKey b := by
  intro h
  have hv : keyCmp (key a) (key b) = .eq := by rw [← vercmp_eq_key]; exact beq_iff_eq.1 h
  simp only [keyCmp, key, lexPair, Ordering.then_eq_eq] at hv
  simp only [hashKey, numbers_eq_toks, segCmp_toks_eq _ _ hv.1, segCmp_toks_eq _ _ hv.2.1]

theorem hashable_true : hashable = true := rfl

/-- the hash is coarser than `==`: the pkgrel, letters and separators are not hashed -/
example : hashKey "1.0-1".toList = hashKey "1.0-2".toList ∧ verOps.eq "1.0-1".toList "1.0-2".toList = false := by
  decide +kernel

/-- what the constructor establishes -/
def WellFormed (r : Raw) : Prop := r ≠ [] ∧ (∀ c ∈ r, isWs c = false) ∧ (∀ c, r.head? = some c → isV c = false)

instance (r : Raw) : Decidable (WellFormed r) := by unfold WellFormed; cases r <;> infer_instance

theorem construct_wf (s : List Char) (r : Raw) (h : construct s = .ok r) : WellFormed r := by
  simp only [construct] at h
  split at h
  · cases h
  · next he =>
    cases h
    refine ⟨fun e => he (e ▸ rfl), fun c hc => ?_, fun c hc => ?_⟩
    · simpa using (List.mem_filter.1 ((List.dropWhile_sublist isV).subset hc)).2
    · have := List.head?_dropWhile_not isV (removeSpaces s)
      rwa [← normalize, hc] at this

/-- C11: `ArchLinuxVersion(str(v))` rebuilds the same value -/
theorem str_roundtrip (r : Raw) (h : WellFormed r) : construct (str r) = .ok r := by
  obtain ⟨hne, hws, hv⟩ := h
  cases r with
  | nil => exact absurd rfl hne
  | cons c cs =>
    have h2 : normalize (c :: cs) = c :: cs := by
      rw [normalize, removeSpaces, List.filter_eq_self.2 fun c hc => by rw [hws c hc]; rfl]
      exact List.dropWhile_cons_of_neg (by rw [hv c rfl]; decide)
    rw [construct, str, h2]; rfl

/-! ### the examples of vercmp(8), read on the key order -/

section
private def kc (a b : String) : Ordering := keyCmp (key a.toList) (key b.toList)
private theorem kc_eq (a b : String) : kc a b = vercmp a.toList b.toList := (vercmp_eq_key _ _).symm

-- evaluation gets stuck on the key; `vercmp` evaluates
example : [kc "1.0a" "1.0b", kc "1.0b" "1.0beta", kc "1.0beta" "1.0p", kc "1.0p" "1.0pre",
    kc "1.0pre" "1.0rc", kc "1.0rc" "1.0", kc "1.0" "1.0.a", kc "1.0.a" "1.0.1"]
    = List.replicate 8 .lt := by simp only [kc_eq]; decide +kernel
example : [kc "1" "1.0", kc "1.0" "1.1", kc "1.1" "1.1.1", kc "1.1.1" "1.2", kc "1.2" "2.0",
    kc "2.0" "3.0.0"] = List.replicate 6 .lt := by simp only [kc_eq]; decide +kernel
example : kc "1.5-1" "1.5" = .eq ∧ kc "1.5-1" "1.5-2" = .lt ∧ kc "1:1.0" "2.0" = .gt
    ∧ kc "0:1.0" "1.0" = .eq := by simp only [kc_eq]; decide +kernel
end

/-! ### the Python port against the C routine of libalpm (see `AlpmSpec`) -/

section
private def lc (a b : String) : Ordering := libalpmRpmvercmp a.toList b.toList

/-- the same examples -/
example : [lc "1.0a" "1.0b", lc "1.0b" "1.0beta", lc "1.0beta" "1.0p", lc "1.0p" "1.0pre",
    lc "1.0pre" "1.0rc", lc "1.0rc" "1.0", lc "1.0" "1.0.a", lc "1.0.a" "1.0.1",
    lc "1" "1.0", lc "1.0" "1.1", lc "1.1" "1.1.1", lc "1.1.1" "1.2", lc "1.2" "2.0", lc "2.0" "3.0.0"]
    = List.replicate 14 .lt := by decide +kernel
end

/-- a separator run against a numeric run: libalpm compares the lengths of the separator runs in
front of the two segments (`a.1` is newer than `a1`), the port makes the numeric token win -/
theorem rpmvercmp_libalpm_counterexample_sep :
    rpmvercmp "a.1".toList "a1".toList = .lt ∧ libalpmRpmvercmp "a.1".toList "a1".toList = .gt := by
  decide +kernel

/-- trailing separators: libalpm drops them (`1.` and `1..` are equal), the port compares their
lengths -/
theorem rpmvercmp_libalpm_counterexample_trailing :
    rpmvercmp "1.".toList "1..".toList = .lt ∧ libalpmRpmvercmp "1.".toList "1..".toList = .eq := by
  decide +kernel

end Univers.Alpm

section AxiomAudit
open Univers.Alpm
#print axioms vercmp_eq_key
#print axioms vercmp_isLE_trans_partial
#print axioms not_transCmp_vercmp
#print axioms verOps_lawful
#print axioms eq_imp_hash
#print axioms str_roundtrip
#print axioms construct_wf
#print axioms parse_ne_nil
#print axioms rpmvercmp_libalpm_counterexample_sep
end AxiomAudit
