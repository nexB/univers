/-
The regular expressions of the library are the ones the recognisers of the scheme models were written for:
the text (and flags) of every `re.<f>(pattern, ...)` call site and of every compiled pattern of /repo, regenerated
on every run (`Univers.Gen.SchemeTables`), equals the text the hand-translated recognisers were cut from.

This is a TEXTUAL tie: a regular expression rewritten into an equivalent one breaks it.  It is therefore a proof
obligation of the thorough tier only; in the quick tier (the check run on every change) a mismatch makes the
correspondence and the wide-alphabet search of the property deeper, and only what they find is reported
(runner step 3a).
-/
import Univers.Gen.SchemeTables

namespace Univers.Tables

open Univers

theorem regex_sites_pinned : Gen.regexSites = [
  ("arch.py", "split_depends", "split", "'([<>=]+)'"),
  ("debian.py", "<module>", "compile", "'^(\\\\d+:)?\\\\d([A-Za-z0-9\\\\.\\\\+\\\\~\\\\-]+|[A-Za-z0-9\\\\.\\\\+\\\\~]+-[A-Za-z0-9\\\\+\\\\.\\\\~]+)?$'"),
  ("debian.py", "get_significant_numbers", "findall", "'\\\\d+'"),
  ("gem.py", "GemVersion", "compile", "f'^\\\\s*({VERSION_PATTERN})?\\\\s*$'"),
  ("gem.py", "GemVersion.segments", "compile", "'[0-9]+|[a-z]+'"),
  ("gem.py", "GemRequirement", "escape", "op"),
  ("gem.py", "GemRequirement", "compile", "f'^{PATTERN_RAW}$'"),
  ("gentoo.py", "<module>", "compile", "'^(?:\\\\d+)(?:\\\\.\\\\d+)*[a-zA-Z]?(?:_(p(?:re)?|beta|alpha|rc)\\\\d*)*$'"),
  ("gentoo.py", "<module>", "compile", "'^(alpha|beta|rc|pre|p)(\\\\d*)$'"),
  ("gentoo.py", "<module>", "compile", "'.*(-r\\\\d+)'"),
  ("nuget.py", "coerce", "compile", "'^(\\\\d+)(\\\\.\\\\d+)?(\\\\.\\\\d+)?(.*)$'"),
  ("nuget.py", "_extract_revision", "compile", "'^(\\\\d+)(\\\\.\\\\d+)(\\\\.\\\\d+)(\\\\.\\\\d+)(.*)'"),
  ("rpm.py", "get_segments", "findall", "'[0-9]+|[a-zA-Z]+|~|\\\\^'"),
  ("rpm.py", "Vercmp", "compile", "b'^([^a-zA-Z0-9~\\\\^]*)(.*)$'"),
  ("rpm.py", "Vercmp", "compile", "b'^([\\\\d]+)(.*)$'"),
  ("rpm.py", "Vercmp", "compile", "b'^([a-zA-Z]+)(.*)$'"),
  ("versions.py", "ArchLinuxVersion.__hash__", "findall", "'\\\\d+'")] := rfl

/-- the compiled patterns (final text after f-string substitution, and flags) -/
theorem compiled_patterns_pinned : Gen.compiledPatterns = [
  ("univers.debian", "is_valid_debian_version", "^(\\d+:)?\\d([A-Za-z0-9\\.\\+\\~\\-]+|[A-Za-z0-9\\.\\+\\~]+-[A-Za-z0-9\\+\\.\\~]+)?$", 32),
  ("univers.gem", "GemRequirement.PATTERN", "^\\s*(=|!=|>|<|>=|<=|\\~>)?\\s*([0-9]+(?:\\.[0-9a-zA-Z]+)*(-[0-9A-Za-z-]+(\\.[0-9A-Za-z-]+)*)?)\\s*$", 32),
  ("univers.gem", "GemVersion.is_correct", "^\\s*([0-9]+(?:\\.[0-9a-zA-Z]+)*(-[0-9A-Za-z-]+(\\.[0-9A-Za-z-]+)*)?)?\\s*$", 32),
  ("univers.gentoo", "_is_gentoo_version", "^(?:\\d+)(?:\\.\\d+)*[a-zA-Z]?(?:_(p(?:re)?|beta|alpha|rc)\\d*)*$", 32),
  ("univers.gentoo", "revision_regexp", ".*(-r\\d+)", 32),
  ("univers.gentoo", "suffix_regexp", "^(alpha|beta|rc|pre|p)(\\d*)$", 32),
  ("univers.rpm", "Vercmp.R_ALPHA", "^([a-zA-Z]+)(.*)$", 0),
  ("univers.rpm", "Vercmp.R_NONALNUMTILDE_CARET", "^([^a-zA-Z0-9~\\^]*)(.*)$", 0),
  ("univers.rpm", "Vercmp.R_NUM", "^([\\d]+)(.*)$", 0)] := rfl

end Univers.Tables
