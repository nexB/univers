/-
The hand-written tables of the scheme models agree with the tables regenerated from /repo
(`Univers.Gen.SchemeTables`, written by harness/translate_schemes.py on every run).  The regular
expressions of the library are pinned in `Scheme/RegexPins.lean`.

These are proof obligations over GENERATED data: editing `suffix_value`, `QUALIFIERS`, `ALIASES`,
`characters_order` or `all_legacy_base` in /repo makes this module fail to check, whether or not a
sampled input shows a difference.  (A failure here is not a violation by itself: the property
checks then search for a concrete failing input.)
-/
import Univers.Gen.SchemeTables
import Univers.Scheme.Gentoo
import Univers.Scheme.Maven
import Univers.Scheme.Deb
import Univers.Scheme.Openssl
import Univers.Text.Advisory

namespace Univers.Tables

open Univers

/-- `suffix_value` of gentoo: same names, same values (the model lists them in the order of the
alternatives of `suffix_regexp`, the dict order is irrelevant to a lookup) -/
theorem gentoo_suffix_value :
    (∀ p ∈ Gen.gentooSuffixValue, Gentoo.sufNames.lookup p.1.toList = some p.2) ∧
    Gen.gentooSuffixValue.length = Gentoo.sufNames.length := by decide

/-- `QUALIFIERS.index` -/
theorem maven_qualifiers :
    (∀ i, (h : i < Gen.mavenQualifiers.length) → Maven.qIndex (Gen.mavenQualifiers[i]).toList = some i) ∧
    Gen.mavenQualifiers.length = 7 := by decide +kernel

/-- `ALIASES.get(buf, buf)` on the keys; the keys are the only strings the model rewrites -/
theorem maven_aliases :
    (∀ p ∈ Gen.mavenAliases, Maven.alias p.1.toList = p.2.toList) ∧
    Gen.mavenAliases.map (·.1) = ["cr", "final", "ga"] := by decide

/-- `characters_order` of debian: every character has the same rank; `""` is the end-of-string rank -/
theorem deb_characters_order :
    (∀ p ∈ Gen.debCharactersOrder,
      if p.1 = "" then Deb.emptyOrder = p.2 else Deb.charactersOrder (p.1.toList.headD ' ') = some p.2) ∧
    (∀ p ∈ Gen.debCharactersOrder, p.1.length ≤ 1) ∧
    Gen.debCharactersOrder.length = 57 := by decide +kernel

/-- the relation texts that `debian.eval_constraint` evaluates (sorted; read by behaviour) -/
theorem deb_operators : Gen.debOperators = [
  "<", "<<", "<=", "=",
  ">", ">=", ">>"] := rfl

/-- `all_legacy_base` -/
theorem openssl_legacy_bases : Gen.legacyOpensslBases.map String.toList = Openssl.Legacy.legacyBases := by decide +kernel

end Univers.Tables
