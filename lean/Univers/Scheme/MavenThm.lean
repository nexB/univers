/-
Theorems for the maven scheme (`univers.maven.Version`, a port of Maven's `ComparableVersion`).

`TransCmp vercmp` is FALSE, already on values `construct` produces: the order cycle
`1.x < 1.0.rc < 1 < 1.x` (`trans_counterexample`), and `1-0.1 == 1 == 1-0.2` but `1-0.1 < 1-0.2`
(`incomp_trans_counterexample`: `_list_compare(l, None)` looks at `l[0]` only).
What holds: `vercmp` is oriented on all values; on `InDomain` (shape
`N(.N)*(-qualifier | -N(.N)*)*`, no `-` component null or starting with 0) it is the reference key
order, hence transitive there; the six operators are the ones induced by `vercmp` on all values;
`1.0 == 1` with different hash keys, but equal hash keys give `==` on constructed values; `str` round-trips.
-/
import Univers.Scheme.MavenSpec
import Univers.Py.AttrsThm
import Univers.Text.Str

namespace Univers.Maven

open Univers Std

def mk (s : String) : Raw := ⟨parse (normalizeStr s.toList), normalizeStr s.toList⟩

theorem construct_mk (s : String) : construct s.toList = .ok (mk s) := rfl

example : (mk "1.x").parsed = [.int 1, .str ['x']] := by rfl
example : vercmp (mk "1.x") (mk "1.0.rc") = .lt := by decide +kernel

theorem trans_counterexample :
    vercmp (mk "1.x") (mk "1.0.rc") = .lt ∧ vercmp (mk "1.0.rc") (mk "1") = .lt ∧
    vercmp (mk "1") (mk "1.x") = .lt := by decide +kernel

theorem incomp_trans_counterexample :
    vercmp (mk "1-0.1") (mk "1") = .eq ∧ vercmp (mk "1") (mk "1-0.2") = .eq ∧
    vercmp (mk "1-0.1") (mk "1-0.2") = .lt := by decide +kernel

theorem cmpListNil_swap : ∀ l, (cmpListNil l).swap = cmpNilList l
  | [] => rfl
  | x :: xs => by simp only [cmpListNil, cmpNilList, Ordering.swap_then, cmpListNil_swap xs]

mutual
theorem cmpItem_swap : ∀ a b, cmpItem a b = (cmpItem b a).swap
  | .int a, .int b => by simp [cmpItem, Nat.compare_swap]
  | .str a, .str b => by
      simp only [cmpItem, stringCompare]
      exact OrientedCmp.eq_swap
  | .list a, .list b => by simp only [cmpItem]; exact cmpList_swap a b
  | .int _, .str _ | .int _, .list _ | .str _, .int _ | .str _, .list _ | .list _, .int _
  | .list _, .str _ => rfl
theorem cmpList_swap : ∀ a b, cmpList a b = (cmpList b a).swap
  | [], [] => rfl
  | [], y :: ys => by
      simp only [cmpList, cmpNilList, Ordering.swap_then, cmpListNil_swap]
  | x :: xs, [] => by
      simp only [cmpList, cmpNilList, Ordering.swap_then, Ordering.swap_swap, ← cmpListNil_swap]
  | x :: xs, y :: ys => by
      simp only [cmpList, Ordering.swap_then]
      rw [← cmpList_swap xs ys, ← cmpItem_swap x y]
end

instance : OrientedCmp vercmp where
  eq_swap := by intro a b; exact cmpList_swap _ _

/-- the spec's qualifier table is the model's `QUALIFIERS.index`: the same `if` chain, entry by
entry -/
theorem qualTok_eq (s : List Char) :
    qualTok s = match qIndex s with | some i => (i, [], []) | none => (7, s, []) := by
  unfold qualTok qIndex
  simp only [apply_ite fun o : Option Nat =>
    match o with | some i => ((i, [], []) : Tok) | none => (7, s, [])]

theorem qIndex_lt {s : List Char} {i : Nat} : qIndex s = some i → i < 7 := by
  fun_cases qIndex s
  all_goals rintro ⟨⟩
  all_goals decide

/-- only the empty qualifier is in the class of the null component -/
theorem qualTok_fst_ne {q : List Char} (hq : q ≠ []) : (qualTok q).1 ≠ 5 := by
  fun_cases qualTok q
  case case6 h => exact absurd h hq  -- the branch of `""`
  all_goals nofun

theorem stringCompare_eq (a b : List Char) :
    stringCompare a b = tokCmp (qualTok a) (qualTok b) := by
  -- `_string_value` writes a known qualifier as one digit `'1'`…`'7'`, ordered like the indices,
  -- and an unknown one as `"7-" + s`, above all of them
  have known : ∀ i < 7, ∀ j < 7,
      lexList (fun (x y : Char) => compare x y) [Char.ofNat (49 + i)] [Char.ofNat (49 + j)]
        = compare i j := by decide
  have below : ∀ i < 7, (compare (Char.ofNat (49 + i)) '7').then .lt = .lt ∧ compare i 7 = .lt
      ∧ (compare '7' (Char.ofNat (49 + i))).then .gt = .gt ∧ compare 7 i = .gt := by decide
  rw [qualTok_eq, qualTok_eq]
  unfold stringCompare stringValue
  cases ha : qIndex a with
  | some i =>
    cases hb : qIndex b with
    | some j =>
      rw [known i (qIndex_lt ha) j (qIndex_lt hb)]
      simp [tokCmp, lexPair, lexList, padLex]
    | none => simp [below i (qIndex_lt ha), lexList, tokCmp, lexPair]
  | none =>
    cases hb : qIndex b with
    | some j => simp [below j (qIndex_lt hb), lexList, tokCmp, lexPair]
    | none => simp [lexList, tokCmp, lexPair, padLex]

def segItems (s : List Atom) : List Item := s.map Atom.item

def tailItems : List (List Atom) → List Item
  | [] => []
  | t :: r => [.list (segItems t ++ tailItems r)]

mutual
theorem chainIn_unchain : ∀ (x : Item) c, chainIn x = some c →
    x = .list (segItems c.1 ++ tailItems c.2)
  | .list l, c, h => by
    simp only [chainIn] at h
    rw [chain_unchain l c h]
  | .int _, _, h => by simp [chainIn] at h
  | .str _, _, h => by simp [chainIn] at h
theorem chain_unchain : ∀ (l : List Item) c, chain l = some c → segItems c.1 ++ tailItems c.2 = l
  | [], c, h => by cases h; rfl
  | .int _ :: r, c, h | .str _ :: r, c, h => by
    rw [chain] at h
    obtain ⟨c', hr, rfl⟩ := Option.map_eq_some_iff.mp h
    exact congrArg (_ :: ·) (chain_unchain r c' hr)
  | .list l :: [], c, h => by
    rw [chain] at h
    obtain ⟨c', hl, rfl⟩ := Option.map_eq_some_iff.mp h
    rw [chainIn_unchain (.list l) c' hl]
    rfl
  | .list _ :: _ :: _, c, h => by simp [chain] at h
end

def intItems (I : List Nat) : List Item := I.map Item.int

theorem ints?_items : ∀ (t : List Atom) (I : List Nat), ints? t = some I → segItems t = intItems I
  | [], I, h => by cases h; rfl
  | .int n :: r, I, h => by
    rw [ints?] at h
    obtain ⟨I', hr, rfl⟩ := Option.map_eq_some_iff.mp h
    exact congrArg (Item.int n :: ·) (ints?_items r I' hr)
  | .str _ :: _, I, h => by simp [ints?] at h

theorem normNums_tail {i : Nat} {I : List Nat} (h : normNums (i :: I) = true) :
    normNums I = true := by
  cases I with
  | nil => rfl
  | cons j J => simpa [normNums, List.getLast?_cons_cons] using h

theorem normNums_single {i : Nat} (h : normNums [i] = true) : i ≠ 0 := by
  simpa [normNums] using h

/-- `_int_compare(n, None)` has the sign of `n` -/
theorem cmpNone_int (n : Nat) : cmpNone (.int n) = compare n 0 := by
  cases n <;> rfl

theorem padLex_nil_nums : ∀ (i : Nat) (I : List Nat), normNums (i :: I) = true →
    padLex (fun (a b : Nat) => compare a b) 0 [] (i :: I) = .lt
  | 0, [], h => by simp [normNums] at h
  | 0, j :: J, h => by simp only [padLex, padLex_nil_nums j J (normNums_tail h)]; rfl
  | i + 1, I, _ => by simp only [padLex, Nat.compare_eq_lt.mpr (Nat.succ_pos i)]; rfl

theorem cmpNilList_ints (T : List Item) : ∀ I : List Nat,
    cmpNilList (intItems I ++ T) = (padLex (fun (a b : Nat) => compare a b) 0 [] I).then (cmpNilList T)
  | [] => by simp only [padLex]; rfl
  | i :: I => by
    show (cmpNone (.int i)).swap.then (cmpNilList (intItems I ++ T)) = _
    rw [cmpNilList_ints T I, cmpNone_int, Nat.compare_swap]
    simp only [padLex, Ordering.then_assoc]

theorem cmpList_nil_ints (i : Nat) (I : List Nat) (ra rb : List (List Atom))
    (h : normNums (i :: I) = true) :
    cmpList (tailItems ra) (intItems (i :: I) ++ tailItems rb) = .lt := by
  cases ra with
  | nil => rw [tailItems, cmpList, cmpNilList_ints, padLex_nil_nums i I h]; rfl
  | cons t r => rfl

theorem cmpList_ints : ∀ (I J : List Nat) (ra rb : List (List Atom)),
    normNums I = true → normNums J = true →
    cmpList (intItems I ++ tailItems ra) (intItems J ++ tailItems rb)
      = (padLex (fun (a b : Nat) => compare a b) 0 I J).then (cmpList (tailItems ra) (tailItems rb))
  | [], [], _, _, _, _ => by simp only [padLex]; rfl
  | [], j :: J, ra, rb, _, hJ => by
    rw [padLex_nil_nums j J hJ]; exact cmpList_nil_ints j J ra rb hJ
  | i :: I, [], ra, rb, hI, _ => by
    rw [OrientedCmp.eq_swap (cmp := padLex _ _), padLex_nil_nums i I hI, cmpList_swap]
    exact congrArg Ordering.swap (cmpList_nil_ints i I rb ra hI)
  | i :: I, j :: J, ra, rb, hI, hJ => by
    have ih := cmpList_ints I J ra rb (normNums_tail hI) (normNums_tail hJ)
    simp only [intItems, List.map_cons, List.cons_append, cmpList, cmpItem, padLex] at ih ⊢
    rw [ih, Ordering.then_assoc]

theorem tokCmp_nums (I J : List Nat) :
    tokCmp (numsTok I) (numsTok J) = padLex (fun (a b : Nat) => compare a b) 0 I J := rfl

theorem qualTok_fst_lt (q : List Char) : (qualTok q).1 < 8 := by
  rw [qualTok_eq]
  cases h : qIndex q with
  | some i => exact Nat.lt_succ_of_lt (qIndex_lt h)
  | none => exact Nat.lt_succ_self 7

theorem tokCmp_qual_nums (q : List Char) (I : List Nat) : tokCmp (qualTok q) (numsTok I) = .lt := by
  simp only [tokCmp, lexPair, numsTok, Nat.compare_eq_lt.mpr (qualTok_fst_lt q), Ordering.lt_then]

theorem tokCmp_nums_qual (q : List Char) (I : List Nat) : tokCmp (numsTok I) (qualTok q) = .gt := by
  rw [OrientedCmp.eq_swap (cmp := tokCmp), tokCmp_qual_nums]; rfl

theorem qualTok_nil : qualTok [] = Tok.null := by decide +kernel

theorem tokCmp_qual_null {q : List Char} (hq : q ≠ []) : tokCmp (qualTok q) Tok.null ≠ .eq := by
  intro h
  simp only [tokCmp, lexPair, Tok.null, Ordering.then_eq_eq, Nat.compare_eq_eq] at h
  exact qualTok_fst_ne hq h.1

theorem tokCmp_nums_null (I : List Nat) : tokCmp (numsTok I) Tok.null = .gt := rfl

theorem segTok_ints {s : List Atom} {I : List Nat} (h : ints? s = some I) : segTok s = numsTok I := by
  unfold segTok
  split
  · simp [ints?] at h
  · simp [h]

theorem goodSeg_cases {t : List Atom} (h : goodSeg t = true) :
    (∃ q, t = [.str q] ∧ q ≠ []) ∨
    (∃ i I, i ≠ 0 ∧ normNums (i :: I) = true ∧ segTok t = numsTok (i :: I)
      ∧ segItems t = intItems (i :: I)) := by
  unfold goodSeg at h
  split at h
  · next q => exact .inl ⟨q, rfl, by simpa using h⟩
  · split at h
    · next i I hI =>
      rw [Bool.and_eq_true, bne_iff_ne] at h
      exact .inr ⟨i, I, h.1, h.2, segTok_ints hI, ints?_items _ _ hI⟩
    · cases h

/-- a good component against the null padding, as the port computes it (`l[0]` only) -/
theorem cmpNone_goodSeg {t : List Atom} (h : goodSeg t = true) (X : List Item) :
    cmpNone (.list (segItems t ++ X)) = tokCmp (segTok t) Tok.null
      ∧ tokCmp (segTok t) Tok.null ≠ .eq := by
  rcases goodSeg_cases h with ⟨q, rfl, hq⟩ | ⟨i, I, hi, _, htok, hitems⟩
  · refine ⟨?_, tokCmp_qual_null hq⟩
    rw [← qualTok_nil]
    exact stringCompare_eq q []
  · rw [htok, hitems, tokCmp_nums_null]
    simp [intItems, cmpNone, hi]

theorem cmpList_goodSeg {ta tb : List Atom} (ha : goodSeg ta = true) (hb : goodSeg tb = true)
    (ra rb : List (List Atom)) :
    cmpList (segItems ta ++ tailItems ra) (segItems tb ++ tailItems rb)
      = (tokCmp (segTok ta) (segTok tb)).then (cmpList (tailItems ra) (tailItems rb)) := by
  rcases goodSeg_cases ha with ⟨q, rfl, _⟩ | ⟨i, I, _, hI, htok, hitems⟩
  · rcases goodSeg_cases hb with ⟨q', rfl, _⟩ | ⟨j, J, _, hJ, htok', hitems'⟩
    · simp [segItems, Atom.item, cmpList, cmpItem, segTok, stringCompare_eq]
    · rw [htok', hitems']
      simp [segItems, Atom.item, intItems, cmpList, cmpItem, segTok, tokCmp_qual_nums]
  · rcases goodSeg_cases hb with ⟨q', rfl, _⟩ | ⟨j, J, _, hJ, htok', hitems'⟩
    · rw [htok, hitems]
      simp [segItems, Atom.item, intItems, cmpList, cmpItem, segTok, tokCmp_nums_qual]
    · rw [htok, hitems, htok', hitems', tokCmp_nums]
      exact cmpList_ints _ _ _ _ hI hJ

/-- a chain of good components against nothing: only its first component is looked at, and that
one differs from the null component -/
theorem cmpList_tailItems_nil {ta : List Atom} (ha : goodSeg ta = true) (ra : List (List Atom)) :
    cmpList (tailItems (ta :: ra)) [] = padLex tokCmp Tok.null ((ta :: ra).map segTok) [] := by
  obtain ⟨h1, h2⟩ := cmpNone_goodSeg ha (tailItems ra)
  simp only [tailItems, cmpList, cmpListNil, List.map_cons, padLex, h1]
  cases h : tokCmp (segTok ta) Tok.null <;> first | rfl | exact absurd h h2

theorem cmpList_tailItems : ∀ (ra rb : List (List Atom)),
    ra.all goodSeg = true → rb.all goodSeg = true →
    cmpList (tailItems ra) (tailItems rb) = padLex tokCmp Tok.null (ra.map segTok) (rb.map segTok)
  | [], [], _, _ => by simp only [List.map_nil, padLex]; rfl
  | [], tb :: rb, _, hb => by
    rw [List.all_cons, Bool.and_eq_true] at hb
    rw [cmpList_swap, OrientedCmp.eq_swap (cmp := padLex tokCmp Tok.null)]
    exact congrArg Ordering.swap (cmpList_tailItems_nil hb.1 rb)
  | ta :: ra, [], ha, _ => by
    rw [List.all_cons, Bool.and_eq_true] at ha
    exact cmpList_tailItems_nil ha.1 ra
  | ta :: ra, tb :: rb, ha, hb => by
    rw [List.all_cons, Bool.and_eq_true] at ha hb
    simp only [tailItems, cmpList, cmpItem, cmpNilList, List.map_cons, padLex, Ordering.then_eq]
    rw [cmpList_goodSeg ha.1 hb.1, cmpList_tailItems ra rb ha.2 hb.2]

/-! ### C03 on the domain: the port orders like Maven's `ComparableVersion` -/

theorem inDomain_view {r : Raw} (h : InDomain r = true) :
    ∃ I ra, r.parsed = intItems I ++ tailItems ra ∧ normNums I = true ∧ ra.all goodSeg = true ∧
      key r = numsTok I :: ra.map segTok := by
  unfold InDomain at h
  unfold key
  cases hc : chain r.parsed with
  | none => simp [hc] at h
  | some c =>
    simp only [hc, goodHead] at h ⊢
    cases hI : ints? c.1 with
    | none => simp [hI] at h
    | some I =>
      rw [hI, Bool.and_eq_true] at h
      exact ⟨I, c.2, by rw [← ints?_items _ _ hI, chain_unchain _ _ hc], h.1, h.2,
        by rw [List.map_cons, segTok_ints hI]⟩

/-- REFINEMENT (C03) on the documented shape `InDomain` -/
theorem vercmp_eq_key_partial (a b : Raw) (ha : InDomain a = true) (hb : InDomain b = true) :
    vercmp a b = keyCmp (key a) (key b) := by
  obtain ⟨I, ra, hpa, hI, hra, hka⟩ := inDomain_view ha
  obtain ⟨J, rb, hpb, hJ, hrb, hkb⟩ := inDomain_view hb
  rw [vercmp, hpa, hpb, hka, hkb, cmpList_ints I J ra rb hI hJ, cmpList_tailItems ra rb hra hrb]
  simp only [keyCmp, padLex, tokCmp_nums]

def Dom : Type := { r : Raw // InDomain r = true }

def domCmp (a b : Dom) : Ordering := vercmp a.1 b.1

theorem domCmp_eq_key : domCmp = cmpOn (fun (a : Dom) => key a.1) keyCmp := by
  funext a b; exact vercmp_eq_key_partial a.1 b.1 a.2 b.2

/-- C01 on the domain: `vercmp` is a lawful comparator (total preorder) there -/
instance vercmp_transCmp_partial : TransCmp domCmp := by
  rw [domCmp_eq_key]; infer_instance

theorem vercmp_isLE_trans_partial (a b c : Raw) (ha : InDomain a = true) (hb : InDomain b = true)
    (hc : InDomain c = true) (h1 : (vercmp a b).isLE = true) (h2 : (vercmp b c).isLE = true) :
    (vercmp a c).isLE = true :=
  TransCmp.isLE_trans (cmp := domCmp) (a := ⟨a, ha⟩) (b := ⟨b, hb⟩) (c := ⟨c, hc⟩) h1 h2

theorem vercmp_eq_trans_partial (a b c : Raw) (ha : InDomain a = true) (hb : InDomain b = true)
    (hc : InDomain c = true) (h1 : vercmp a b = .eq) (h2 : vercmp b c = .eq) :
    vercmp a c = .eq :=
  TransCmp.eq_trans (cmp := domCmp) (a := ⟨a, ha⟩) (b := ⟨b, hb⟩) (c := ⟨c, hc⟩) h1 h2

theorem inDomain_congr {r : Raw} {l : List Item} {v : Bool} (h : r.parsed = l)
    (hl : InDomain ⟨l, []⟩ = v) : InDomain r = v := by
  unfold InDomain at hl ⊢; rw [h]; exact hl

/-- the hypothesis is satisfiable, and the known witnesses are outside -/
example : InDomain (mk "1.2.3") = true := by decide +kernel
example : InDomain (mk "1.0-SNAPSHOT") = true := by decide +kernel
example : InDomain (mk "1.0.0-RC2") = true := by decide +kernel
example : InDomain (mk "2.0-beta-3-4.1-sp") = true := by decide +kernel
example : InDomain (mk "") = true := by decide +kernel
example : InDomain (mk "1-0.1") = false := by decide +kernel
example : InDomain (mk "1.x") = false := by decide +kernel
example : InDomain (mk "1.0.rc") = false := by decide +kernel
example : InDomain (mk "1-ga-1") = false := by decide +kernel

/-! ### C02: the six operators -/

theorem verOps_lawful : Lawful verOps vercmp := by
  refine Py.lawful_attrs ?_
  constructor <;> intro a b <;> simp only [valOps] <;> cases vercmp a b <;> rfl

/-! ### C12: `==` against `hash` -/

/-- `MavenVersion("1.0") == MavenVersion("1")` with different hashes: the hash is the hash of
the unparsed text -/
theorem eq_imp_hash_counterexample :
    verOps.eq (mk "1.0") (mk "1") = true ∧ hashKey (mk "1.0") ≠ hashKey (mk "1") := by
  decide +kernel

/-- what `construct` establishes -/
def WellFormed (r : Raw) : Prop := normalizeStr r.text = r.text ∧ r.parsed = parse r.text

theorem vercmp_self (a : Raw) : vercmp a a = .eq := ReflCmp.compare_self

/-- the converse holds: same text, equal versions -/
theorem hash_imp_eq (a b : Raw) (ha : WellFormed a) (hb : WellFormed b)
    (h : hashKey a = hashKey b) : verOps.eq a b = true := by
  have hp : a.parsed = b.parsed := by rw [ha.2, hb.2]; exact congrArg parse h
  show (cmpList a.parsed b.parsed == .eq) = true
  rw [hp]
  exact beq_iff_eq.mpr (vercmp_self b)

/-! ### C11: `str` round trip -/

theorem normalizeStr_idem (s : List Char) : normalizeStr (normalizeStr s) = normalizeStr s := by
  unfold normalizeStr
  -- what is left of a list without whitespace has none
  rw [List.filter_eq_self.mpr fun c hc =>
    (List.mem_filter.mp ((List.dropWhile_sublist _).subset hc)).2, Text.Str.dropWhile_idem]

theorem construct_wellFormed (s : List Char) (r : Raw) (h : construct s = .ok r) : WellFormed r := by
  cases h
  exact ⟨normalizeStr_idem s, rfl⟩

theorem str_roundtrip (r : Raw) (h : WellFormed r) : construct (str r) = .ok r := by
  show Except.ok (Raw.mk (parse (normalizeStr r.text)) (normalizeStr r.text)) = _
  rw [h.1, ← h.2]

end Univers.Maven
