/-
Spec of the Conan version order (Conan 2 `conan/internal/model/version.py`, documented in the
Conan reference under "Version ranges" / "versions"):

* a version is `main[-pre][+build]`; `main` is a dotted list of items; an item that reads as an
  integer is a number, otherwise a word; trailing zero items do not count (`1.0` = `1`);
* main items compare left to right, numbers numerically and words as strings; when one list is a
  prefix of the other the shorter is lower;
* with equal main items, a version with a pre-release is below the one without; two pre-releases
  compare as versions;
* then a version without build metadata is below one with build metadata; two builds compare as
  versions.

Conan gives no consistent rule for a number against a word in the same position (the code falls
back to comparing the decimal spelling of the number with the word as strings, which does not
fit with the numeric comparison of numbers).  The key below places numbers before words; the
refinement theorem is stated for versions that are position-wise of the same kind (`Compat`).
-/
import Univers.Scheme.Conan

namespace Univers.Conan

open Std Univers

def charsCmp : List Char → List Char → Ordering := lexList (fun (a b : Char) => compare a b)

/-- numbers numerically, words as strings, numbers before words -/
def itemCmp : Item → Item → Ordering
  | .int a, .int b => compare a b
  | .int _, .str _ => .lt
  | .str _, .int _ => .gt
  | .str a, .str b => charsCmp a b

instance : OrientedCmp itemCmp where
  eq_swap := by
    intro a b
    cases a <;> cases b <;> simp [itemCmp, charsCmp]
    · exact OrientedCmp.eq_swap
    · exact OrientedCmp.eq_swap

instance : TransCmp itemCmp where
  isLE_trans := by
    intro a b c
    cases a <;> cases b <;> cases c <;> simp [itemCmp, charsCmp, Ordering.isLE]
    · exact TransCmp.isLE_trans
    · exact TransCmp.isLE_trans

/-- the key of a version (or of an absent pre-release / build: `none`): the main items without
trailing zeros, the key of the pre-release, the key of the build -/
inductive Key where
  | none
  | mk (items : List Item) (pre build : Key)
  deriving DecidableEq, Repr

/-- `noneHigh = true`: an absent part is above every present one (pre-release position);
`noneHigh = false`: an absent part is below every present one (build position, and the top level) -/
def keyCmpAux : Bool → Key → Key → Ordering
  | _, .none, .none => .eq
  | hi, .none, .mk _ _ _ => if hi then .gt else .lt
  | hi, .mk _ _ _, .none => if hi then .lt else .gt
  | _, .mk i1 p1 b1, .mk i2 p2 b2 =>
    (lexList itemCmp i1 i2).then ((keyCmpAux true p1 p2).then (keyCmpAux false b1 b2))

def keyCmp : Key → Key → Ordering := keyCmpAux false

theorem keyCmpAux_swap : ∀ (hi : Bool) (a b : Key), keyCmpAux hi a b = (keyCmpAux hi b a).swap
  | _, .none, .none => rfl
  | hi, .none, .mk _ _ _ => by cases hi <;> rfl
  | hi, .mk _ _ _, .none => by cases hi <;> rfl
  | _, .mk i1 p1 b1, .mk i2 p2 b2 => by
    simp only [keyCmpAux, Ordering.swap_then]
    rw [← keyCmpAux_swap true p1 p2, ← keyCmpAux_swap false b1 b2,
      ← OrientedCmp.eq_swap (cmp := lexList itemCmp)]

/-- `TransCmp.lt_of_lt_of_isLE` (and, next, `TransCmp.lt_of_isLE_of_lt`) from transitivity at
`a b c` and at one rotation of it alone: inside `keyCmpAux_trans` there is no `TransCmp` instance
yet, only the recursive calls -/
theorem lt_of_lt_of_isLE_aux {α : Type} {cmp : α → α → Ordering}
    (sw : ∀ a b, cmp a b = (cmp b a).swap) {a b c : α}
    (t1 : (cmp a b).isLE → (cmp b c).isLE → (cmp a c).isLE)
    (t2 : (cmp b c).isLE → (cmp c a).isLE → (cmp b a).isLE) :
    cmp a b = .lt → (cmp b c).isLE → cmp a c = .lt := by
  intro h1 h2
  have h3 := t1 (by simp [h1, Ordering.isLE]) h2
  have hba : cmp b a = .gt := by rw [sw b a, h1]; rfl
  cases hac : cmp a c with
  | lt => rfl
  | gt => rw [hac] at h3; simp [Ordering.isLE] at h3
  | eq =>
    have hca : cmp c a = .eq := by rw [sw c a, hac]; rfl
    have := t2 h2 (by simp [hca, Ordering.isLE])
    rw [hba] at this; simp [Ordering.isLE] at this

theorem lt_of_isLE_of_lt_aux {α : Type} {cmp : α → α → Ordering}
    (sw : ∀ a b, cmp a b = (cmp b a).swap) {a b c : α}
    (t1 : (cmp a b).isLE → (cmp b c).isLE → (cmp a c).isLE)
    (t3 : (cmp c a).isLE → (cmp a b).isLE → (cmp c b).isLE) :
    (cmp a b).isLE → cmp b c = .lt → cmp a c = .lt := by
  intro h1 h2
  have h3 := t1 h1 (by simp [h2, Ordering.isLE])
  have hcb : cmp c b = .gt := by rw [sw c b, h2]; rfl
  cases hac : cmp a c with
  | lt => rfl
  | gt => rw [hac] at h3; simp [Ordering.isLE] at h3
  | eq =>
    have hca : cmp c a = .eq := by rw [sw c a, hac]; rfl
    have := t3 (by simp [hca, Ordering.isLE]) h1
    rw [hcb] at this; simp [Ordering.isLE] at this

theorem keyCmpAux_trans (hi : Bool) (a b c : Key) :
    (keyCmpAux hi a b).isLE → (keyCmpAux hi b c).isLE → (keyCmpAux hi a c).isLE := by
  match a, b, c with
  | .none, .none, _ => exact fun _ h => h
  | .none, .mk _ _ _, .none => intro _ _; simp [keyCmpAux]
  | .none, .mk _ _ _, .mk _ _ _ => intro h _; cases hi <;> simp_all [keyCmpAux]
  | .mk _ _ _, .none, .none => exact fun h _ => h
  | .mk _ _ _, .none, .mk _ _ _ => intro h1 h2; cases hi <;> simp_all [keyCmpAux]
  | .mk _ _ _, .mk _ _ _, .none => intro _ h; cases hi <;> simp_all [keyCmpAux]
  | .mk i1 p1 b1, .mk i2 p2 b2, .mk i3 p3 b3 =>
    intro h1 h2
    simp only [keyCmpAux] at h1 h2 ⊢
    -- the items have their instance; for the pre-releases the strict cases of `then_isLE_trans`
    -- come from the recursive calls at `p1 p2 p3` and its two rotations
    have p123 := keyCmpAux_trans true p1 p2 p3
    have p231 := keyCmpAux_trans true p2 p3 p1
    have p312 := keyCmpAux_trans true p3 p1 p2
    have b123 := keyCmpAux_trans false b1 b2 b3
    exact then_isLE_trans (fun x y => TransCmp.isLE_trans x y)
      (fun x y => TransCmp.lt_of_lt_of_isLE x y) (fun x y => TransCmp.lt_of_isLE_of_lt x y)
      (then_isLE_trans p123
        (lt_of_lt_of_isLE_aux (keyCmpAux_swap true) p123 p231)
        (lt_of_isLE_of_lt_aux (keyCmpAux_swap true) p123 p312)
        b123) h1 h2
termination_by sizeOf a + sizeOf b + sizeOf c
decreasing_by
  all_goals simp_wf
  all_goals omega

instance (hi : Bool) : OrientedCmp (keyCmpAux hi) where
  eq_swap := keyCmpAux_swap hi _ _

instance (hi : Bool) : TransCmp (keyCmpAux hi) where
  isLE_trans := keyCmpAux_trans hi _ _ _

instance : TransCmp keyCmp := inferInstanceAs (TransCmp (keyCmpAux false))

/-- the key of a parsed version: trailing zero items dropped, recursively for pre and build -/
def key : Raw → Key
  | .none => .none
  | .ver _ i p b => .mk (stripZeros i) (key p) (key b)

end Univers.Conan
