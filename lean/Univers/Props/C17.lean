/-
C17 — meaning is stable under any sequence of presentation-level operations.

The state is the constraint tuple of a range (version-sorted by the constructor).  Operations,
as Layer-B models: permute + rebuild (`mkRange` of any permutation), simplify (any hash seed),
validate, invert twice, print + parse (`mkRange` of the same constraints: the text round trip
itself is C05).  The quantifier over histories is discharged by induction on the list of
operations.  Helper lemmas: `Univers/Vers/History.lean`.
-/
import Univers.Vers.History
import Univers.Vers.HistoryModel
import Univers.Vers.InvertWF
import Univers.Props.C08
import Univers.Props.C13

namespace Univers.C17

open Univers Std

variable {V : Type} {o : VOps V} {cmp : V → V → Ordering}

/-- the invariant: a well-formed version-sorted star-free list -/
def Good (cmp : V → V → Ordering) (s : List (Con V)) : Prop :=
  noStar s = true ∧ StrictSorted cmp s ∧ eqRule s = true ∧ altRule s = true

theorem Good.wf {s : List (Con V)} (h : Good cmp s) : WFSorted cmp s := Or.inr h

theorem mkRange_good [TransCmp cmp] (h : Lawful o cmp) {s : List (Con V)} (hg : Good cmp s) :
    mkRange o s = .ok s :=
  sortCons_eq_of_perm h s s (List.Perm.refl _) hg.1 hg.2.1

theorem validate_good [TransCmp cmp] (h : Lawful o cmp) {s : List (Con V)} (hg : Good cmp s) :
    validate o s = .ok true :=
  (validate_ok_iff_wf h s).mpr ⟨s, List.Perm.refl _, hg.wf⟩

theorem good_of_validate [TransCmp cmp] (h : Lawful o cmp) {s : List (Con V)} (hns : noStar s = true)
    (hs : StrictSorted cmp s) (hv : validate o s = .ok true) : Good cmp s := by
  obtain ⟨t, e, _, hw⟩ := sortCons_of_wf h s ((validate_ok_iff_wf h s).mp hv)
  rw [sortCons_eq_of_perm h s s (List.Perm.refl _) hns hs] at e
  cases e
  rcases hw with rfl | hg
  · cases hns
  · exact hg

theorem simplify_good [TransCmp cmp] (h : Lawful o cmp) (π : List (Con V) → List (Con V))
    (hop : ∀ l, (π l).Perm l) (s : List (Con V)) (hg : Good cmp s) :
    ∃ t, simplify o π s = .ok t ∧ Good cmp t ∧ (∀ x, denote cmp t x = denote cmp s x) ∧
      simplify o π t = .ok t ∧
      (∀ π', (∀ l, (π' l).Perm l) → simplify o π' s = .ok s → t = s) := by
  obtain ⟨t, ht, hsub, hmean, hval, hfix⟩ := C08.simplify_spec h π hop s hg.1 hg.2.1
  have hgt := good_of_validate h (noStar_of_sublist hsub hg.1) (hg.2.1.sublist hsub) hval
  refine ⟨t, ht, hgt, fun x => ?_, hfix, fun π' hπ' hfixs => ?_⟩
  · rw [← denoteR_eq_denote t hgt.wf x, ← denoteR_eq_denote s hg.wf x]
    exact hmean x
  · have := C08.simplify_seed_independent h π π' hop hπ' s hg.1 hg.2.1
    rw [ht, hfixs] at this
    exact Except.ok.inj this

/-- on a well-formed list every operation returns the list as it is, or returns what a
simplification returns -/
theorem step_cases [TransCmp cmp] (h : Lawful o cmp) (op : Op V) (hop : op.ok) (s : List (Con V))
    (hg : Good cmp s) :
    step o op s = .ok s ∨ ∃ π, (∀ l, (π l).Perm l) ∧
      ∀ t, simplify o π s = .ok t → Good cmp t → step o op s = .ok t := by
  have h0 : sortCons o s = .ok s := mkRange_good h hg
  cases op with
  | printParse => exact .inl h0
  | permuteRebuild σ =>
    exact .inl ((C13.canonical_perm h s (σ s) (hop s) ⟨s, List.Perm.refl _, hg.wf⟩).trans h0)
  | validate => exact .inl (by rw [step, validate_good h hg])
  | invertTwice =>
    left
    rw [step, invertRange_sorted h s hg.1 hg.2.1]
    simp only
    rw [invertRange_sorted h (s.map Con.inv) (by rw [noStar_map_inv]; exact hg.1)
      (strictSorted_map_inv s hg.2.1), List.map_map]
    exact congrArg Except.ok ((List.map_congr_left fun c _ => c.inv_inv).trans (List.map_id s))
  | simplify π => exact .inr ⟨π, hop, fun t ht hgt => by rw [step, ht]; exact mkRange_good h hgt⟩
  | parseFlags sf vf π =>
    -- validation, asked for or not, lets a well-formed list through
    have hv : ∀ {q}, Good cmp q → (if vf then validate o q else .ok true) = .ok true :=
      fun hq => by rw [validate_good h hq, ite_self]
    cases sf with
    | false => exact .inl (by simp only [step, h0, hv hg, Bool.false_eq_true, if_false]; exact h0)
    | true =>
      exact .inr ⟨π, hop, fun t ht hgt => by
        simp only [step, h0, ht, hv hgt, if_true]; exact mkRange_good h hgt⟩

theorem step_good [TransCmp cmp] (h : Lawful o cmp) (op : Op V) (hop : op.ok) (s : List (Con V))
    (hg : Good cmp s) :
    ∃ s', step o op s = .ok s' ∧ Good cmp s' ∧ (∀ x, denote cmp s' x = denote cmp s x) ∧
      (∀ π, (∀ l, (π l).Perm l) → simplify o π s = .ok s → s' = s) := by
  rcases step_cases h op hop s hg with e | ⟨π, hπ, e⟩
  · exact ⟨s, e, hg, fun _ => rfl, fun _ _ _ => rfl⟩
  · obtain ⟨t, ht, hgt, hm, _, hfx⟩ := simplify_good h π hπ s hg
    exact ⟨t, e t ht hgt, hgt, hm, hfx⟩

/-- `step_good` along a history; by the last clause, once a list is a fixed point of simplification
nothing changes it any more -/
theorem run_good [TransCmp cmp] (h : Lawful o cmp) (ops : List (Op V)) (hops : ∀ op ∈ ops, op.ok)
    (s : List (Con V)) (hg : Good cmp s) :
    ∃ s', run o ops s = .ok s' ∧ Good cmp s' ∧ (∀ x, denote cmp s' x = denote cmp s x) ∧
      (∀ π, (∀ l, (π l).Perm l) → simplify o π s = .ok s → s' = s) := by
  induction ops generalizing s with
  | nil => exact ⟨s, rfl, hg, fun _ => rfl, fun _ _ _ => rfl⟩
  | cons op rest ih =>
    obtain ⟨hop, hrest⟩ := List.forall_mem_cons.mp hops
    obtain ⟨s1, h1, hg1, hm1, hf1⟩ := step_good h op hop s hg
    obtain ⟨s2, h2, hg2, hm2, hf2⟩ := ih hrest s1 hg1
    refine ⟨s2, by rw [run, h1]; exact h2, hg2, fun x => (hm2 x).trans (hm1 x), fun π hπ hfix => ?_⟩
    have e := hf1 π hπ hfix
    subst e
    exact hf2 π hπ hfix

/-- Starting from any well-formed range (not the star), applying ANY finite sequence of
print+parse, rebuild from shuffled constraints, simplify (any hash seed), validate and invert
twice never fails and yields a well-formed range with exactly the same membership for every
version. -/
theorem history_meaning [TransCmp cmp] (h : Lawful o cmp) :
    ∀ (ops : List (Op V)), (∀ op ∈ ops, op.ok) → ∀ (s : List (Con V)), Good cmp s →
      ∃ s', run o ops s = .ok s' ∧ Good cmp s' ∧ ∀ x, denote cmp s' x = denote cmp s x :=
  fun ops hops s hg => let ⟨s', h1, h2, h3, _⟩ := run_good h ops hops s hg; ⟨s', h1, h2, h3⟩

/-- membership on the model of the real test (`contains_version`) is stable too -/
theorem history_membership [TransCmp cmp] (h : Lawful o cmp) (ops : List (Op V))
    (hops : ∀ op ∈ ops, op.ok) (s : List (Con V)) (hg : Good cmp s) (x : V) :
    ∃ s', run o ops s = .ok s' ∧ containsVersion o x s' = containsVersion o x s := by
  obtain ⟨s', hr, hg', hm⟩ := history_meaning h ops hops s hg
  refine ⟨s', hr, ?_⟩
  rw [C04.contains_eq_denote h s' hg'.wf x, C04.contains_eq_denote h s hg.wf x, hm x]

theorem run_append (a b : List (Op V)) (s : List (Con V)) :
    run o (a ++ b) s = match run o a s with | .error e => .error e | .ok s' => run o b s' := by
  induction a generalizing s with
  | nil => rfl
  | cons x xs ih =>
    rw [List.cons_append, run, run]
    cases step o x s with
    | error e => rfl
    | ok s' => exact ih s'

/-- the canonical text stops changing after the first simplification: whatever follows a
simplify step leaves the constraint tuple (hence its text) as that step produced it -/
theorem history_text_stable [TransCmp cmp] (h : Lawful o cmp) (ops₁ ops₂ : List (Op V))
    (π : List (Con V) → List (Con V)) (hπ : ∀ l, (π l).Perm l)
    (h1 : ∀ op ∈ ops₁, op.ok) (h2 : ∀ op ∈ ops₂, op.ok) (s : List (Con V)) (hg : Good cmp s) :
    run o (ops₁ ++ [.simplify π] ++ ops₂) s = run o (ops₁ ++ [.simplify π]) s := by
  obtain ⟨sa, ha, hga, _⟩ := run_good h ops₁ h1 s hg
  -- the simplify step yields a fixed point of simplification, which `ops₂` leaves alone
  obtain ⟨sb, hb, hgb, _, hfix, _⟩ := simplify_good h π hπ sa hga
  obtain ⟨sc, hc, _, _, hsame⟩ := run_good h ops₂ h2 sb hgb
  have hfull : run o (ops₁ ++ [Op.simplify π]) s = .ok sb := by
    rw [run_append, ha]
    simp only [run, step, hb, mkRange_good h hgb]
  rw [run_append (ops₁ ++ [Op.simplify π]) ops₂ s, hfull]
  exact hc.trans (congrArg Except.ok (hsame π hπ hfix))

/-! non-vacuity -/
example : Good C04.intCmp [.mk .ge 1, .mk .lt 5, .mk .eq 7, .mk .ne 9] :=
  ⟨by decide, by decide, by decide, by decide⟩

end Univers.C17
