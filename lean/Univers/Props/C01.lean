/-
C01 — version comparison is a strict weak order within every scheme; sorting gives the same
sequence of equivalence classes whatever the input order.

The generic statements are in `Univers/Basic/Swo.lean` (`swo_of_ltgt`,
`sort_classes_invariant`); here they are instantiated for the model of every scheme
(`verOps` = the operators as Python dispatches them, `vercmp` = the scheme's comparison
routine, refined to a lawful sort key in `Univers/Scheme/<S>Thm.lean`).
Sub-domains: alpm — all versions with, or all without, a pkgrel (the property's own exclusion);
conan — a homogeneous shape `σ` (the property's own exclusion); ebuild/alpine — every
constructible value (`Valid`); nuget — every constructible value (`WF`).
-/
import Univers.Basic.Swo
import Univers.Scheme.GemThm
import Univers.Scheme.RpmThm
import Univers.Scheme.PypiThm
import Univers.Scheme.DebThm
import Univers.Scheme.SemverThm
import Univers.Scheme.OpensslThm
import Univers.Scheme.AlpmThm
import Univers.Scheme.GentooThm
import Univers.Scheme.NugetThm
import Univers.Scheme.ConanThm
import Univers.Scheme.Generic

namespace Univers.C01

open Univers Std

/-! ### schemes lawful on every value -/

theorem gem_swo : StrictWeakOrder Gem.verOps.lt Gem.verOps.gt := swo_of_lawful Gem.verOps_lawful
theorem gem_sort_classes (l₁ l₂ : List Gem.Raw) (hp : l₁.Perm l₂) :
    (sortBy Gem.verOps.lt l₁).map (cls Gem.vercmp) = (sortBy Gem.verOps.lt l₂).map (cls Gem.vercmp) :=
  sort_classes_invariant Gem.verOps_lawful.ltgt l₁ l₂ hp

theorem rpm_swo : StrictWeakOrder Rpm.verOps.lt Rpm.verOps.gt := swo_of_lawful Rpm.verOps_lawful
theorem rpm_sort_classes (l₁ l₂ : List Rpm.Raw) (hp : l₁.Perm l₂) :
    (sortBy Rpm.verOps.lt l₁).map (cls Rpm.vercmp) = (sortBy Rpm.verOps.lt l₂).map (cls Rpm.vercmp) :=
  sort_classes_invariant Rpm.verOps_lawful.ltgt l₁ l₂ hp

theorem pypi_swo : StrictWeakOrder Pypi.verOps.lt Pypi.verOps.gt := swo_of_lawful Pypi.verOps_lawful
theorem pypi_sort_classes (l₁ l₂ : List Pypi.Raw) (hp : l₁.Perm l₂) :
    (sortBy Pypi.verOps.lt l₁).map (cls Pypi.vercmp) = (sortBy Pypi.verOps.lt l₂).map (cls Pypi.vercmp) :=
  sort_classes_invariant Pypi.verOps_lawful.ltgt l₁ l₂ hp

theorem generic_swo : StrictWeakOrder Generic.verOps.lt Generic.verOps.gt :=
  swo_of_lawful Generic.verOps_lawful
theorem generic_sort_classes (l₁ l₂ : List Generic.Raw) (hp : l₁.Perm l₂) :
    (sortBy Generic.verOps.lt l₁).map (cls Generic.vercmp) = (sortBy Generic.verOps.lt l₂).map (cls Generic.vercmp) :=
  sort_classes_invariant Generic.verOps_lawful.ltgt l₁ l₂ hp

/-! ### schemes whose `<` and `>` are lawful on every value -/

theorem deb_ltgt : LawfulLtGt Deb.verOps Deb.vercmp := ⟨Deb.verOps_lt, Deb.verOps_gt⟩
theorem deb_swo : StrictWeakOrder Deb.verOps.lt Deb.verOps.gt := swo_of_ltgt deb_ltgt
theorem deb_sort_classes (l₁ l₂ : List Deb.Raw) (hp : l₁.Perm l₂) :
    (sortBy Deb.verOps.lt l₁).map (cls Deb.vercmp) = (sortBy Deb.verOps.lt l₂).map (cls Deb.vercmp) :=
  sort_classes_invariant deb_ltgt l₁ l₂ hp

/-- semver, golang, composer, nginx share one model -/
theorem semver_ltgt : LawfulLtGt Semver.verOps Semver.vercmp :=
  ⟨fun a b => (Semver.verOps_order_lawful a b).1, fun a b => (Semver.verOps_order_lawful a b).2.1⟩
theorem semver_swo : StrictWeakOrder Semver.verOps.lt Semver.verOps.gt := swo_of_ltgt semver_ltgt
theorem semver_sort_classes (l₁ l₂ : List Semver.Raw) (hp : l₁.Perm l₂) :
    (sortBy Semver.verOps.lt l₁).map (cls Semver.vercmp) = (sortBy Semver.verOps.lt l₂).map (cls Semver.vercmp) :=
  sort_classes_invariant semver_ltgt l₁ l₂ hp

theorem legacy_openssl_ltgt : LawfulLtGt Openssl.Legacy.verOps Openssl.Legacy.vercmp :=
  Openssl.Legacy.verOps_lawful.ltgt
theorem legacy_openssl_swo : StrictWeakOrder Openssl.Legacy.verOps.lt Openssl.Legacy.verOps.gt :=
  swo_of_ltgt legacy_openssl_ltgt

theorem openssl_ltgt : LawfulLtGt Openssl.verOps Openssl.vercmp :=
  ⟨fun a b => (Openssl.verOps_order_lawful a b).1, fun a b => (Openssl.verOps_order_lawful a b).2.1⟩
theorem openssl_swo : StrictWeakOrder Openssl.verOps.lt Openssl.verOps.gt := swo_of_ltgt openssl_ltgt
theorem openssl_sort_classes (l₁ l₂ : List Openssl.Raw) (hp : l₁.Perm l₂) :
    (sortBy Openssl.verOps.lt l₁).map (cls Openssl.vercmp) = (sortBy Openssl.verOps.lt l₂).map (cls Openssl.vercmp) :=
  sort_classes_invariant openssl_ltgt l₁ l₂ hp

/-! ### schemes with a sub-domain -/

/-- alpm: versions that all have a pkgrel -/
theorem alpm_swo_withRel :
    StrictWeakOrder (subOps (P := fun r => Alpm.hasRel r = true) Alpm.verOps).lt
      (subOps (P := fun r => Alpm.hasRel r = true) Alpm.verOps).gt :=
  swo_of_ltgt (cmp := cmpOn (Subtype.val : Alpm.WithRel → Alpm.Raw) Alpm.vercmp) Alpm.verOps_lawful.ltgt.sub

/-- alpm: versions that all lack a pkgrel -/
theorem alpm_swo_noRel :
    StrictWeakOrder (subOps (P := fun r => Alpm.hasRel r = false) Alpm.verOps).lt
      (subOps (P := fun r => Alpm.hasRel r = false) Alpm.verOps).gt :=
  swo_of_ltgt (cmp := cmpOn (Subtype.val : Alpm.NoRel → Alpm.Raw) Alpm.vercmp) Alpm.verOps_lawful.ltgt.sub

/-- ebuild and alpine: every value the constructors can produce -/
theorem gentoo_ltgt : LawfulLtGt Gentoo.verOps Gentoo.vercmp := Gentoo.verOps_lawful.ltgt
theorem gentoo_swo :
    StrictWeakOrder (subOps (P := Gentoo.Valid) Gentoo.verOps).lt (subOps (P := Gentoo.Valid) Gentoo.verOps).gt :=
  swo_of_ltgt (cmp := cmpOn (Subtype.val : Gentoo.ValidRaw → Gentoo.Raw) Gentoo.vercmp) gentoo_ltgt.sub

/-- nuget: every value the constructor can produce -/
theorem nuget_swo :
    StrictWeakOrder (subOps (P := fun r => Nuget.WF r = true) Nuget.verOps).lt
      (subOps (P := fun r => Nuget.WF r = true) Nuget.verOps).gt :=
  swo_of_ltgt (cmp := Nuget.vercmpW) Nuget.verOps_lawful.ltgt.sub

/-- conan: versions of one homogeneous shape `σ` (numbers and words never share a position) -/
theorem conan_swo (σ : List Bool → Nat → Bool) :
    StrictWeakOrder (subOps (P := fun v => Conan.Fits σ [] v = true) Conan.verOps).lt
      (subOps (P := fun v => Conan.Fits σ [] v = true) Conan.verOps).gt :=
  swo_of_ltgt (cmp := Conan.vercmpOn σ) Conan.verOps_lawful.ltgt.sub

end Univers.C01
