/-
C02 — the six comparison operators agree with one another.

`Lawful verOps vercmp` says that the six operators, as Python dispatches them for the scheme's
public class, are the six views of the scheme's one three-way comparison; the generic
consequences (exactly one of <, ==, >; <= is < or ==; …; the meaning of a single-comparator
constraint) are in `Univers/Basic/Swo.lean`.
-/
import Univers.Props.C01
import Univers.Scheme.MavenThm
import Univers.Gen.Comparators

namespace Univers.C02

open Univers Std

theorem ops_agree {V : Type} {o : VOps V} {cmp : V → V → Ordering} (h : Lawful o cmp) (a b : V) :
    exactlyOne (o.lt a b) (o.eq a b) (o.gt a b) = true ∧
    o.le a b = (o.lt a b || o.eq a b) ∧ o.ge a b = (o.gt a b || o.eq a b) ∧
    o.ne a b = !o.eq a b := ops_agree_of_lawful h a b

/-- '<=1.9' accepts exactly the versions below or equal to 1.9 in the scheme's order -/
theorem constraint_meaning {V : Type} {o : VOps V} {cmp : V → V → Ordering} (h : Lawful o cmp)
    (c : Cmpr) (u x : V) : (Con.mk c u).sat o x = c.holds (cmp x u) := single_constraint_meaning h c u x

/-- the `COMPARATORS` table regenerated from /repo maps each comparator text to the operator
the model uses (and "*" to the always-true operator) -/
theorem comparators_table :
    (∀ c ∈ Cmpr.all, Gen.comparators.lookup c.text = some (match c with
      | .ge => "ge" | .le => "le" | .ne => "ne" | .lt => "lt" | .gt => "gt" | .eq => "eq")) ∧
    Gen.comparators.lookup "*" = some "star" ∧ Gen.comparators.length = 7 := by decide

theorem gem : Lawful Gem.verOps Gem.vercmp := Gem.verOps_lawful
theorem rpm : Lawful Rpm.verOps Rpm.vercmp := Rpm.verOps_lawful
theorem pypi : Lawful Pypi.verOps Pypi.vercmp := Pypi.verOps_lawful
theorem generic : Lawful Generic.verOps Generic.vercmp := Generic.verOps_lawful
theorem deb : Lawful Deb.verOps Deb.vercmp := Deb.verOps_lawful
theorem alpm : Lawful Alpm.verOps Alpm.vercmp := Alpm.verOps_lawful
theorem conan : Lawful Conan.verOps Conan.vercmp := Conan.verOps_lawful
theorem nuget : Lawful Nuget.verOps Nuget.vercmp := Nuget.verOps_lawful
/-- ebuild, alpine -/
theorem gentoo : Lawful Gentoo.verOps Gentoo.vercmp := Gentoo.verOps_lawful
theorem maven : Lawful Maven.verOps Maven.vercmp := Maven.verOps_lawful
theorem legacy_openssl : Lawful Openssl.Legacy.verOps Openssl.Legacy.vercmp := Openssl.Legacy.verOps_lawful
/-- semver, golang, composer, nginx: on every value the constructors can produce -/
theorem semver : Lawful Semver.verOpsCanon (fun a b => Semver.vercmp a.1 b.1) := Semver.verOps_lawful_partial
theorem semver_constructed (s : List Char) (r : Semver.Raw) (h : Semver.construct s = .ok r) :
    Semver.PreCanon r := Semver.construct_preCanon s r h
/-- openssl: on every value the constructor can produce -/
theorem openssl : Lawful Openssl.verOpsCanon (fun a b => Openssl.vercmp a.1 b.1) := Openssl.verOps_lawful
theorem openssl_constructed (s : List Char) (r : Openssl.Raw) (h : Openssl.construct s = .ok r) :
    Openssl.Canon r := Openssl.construct_canon s r h

end Univers.C02
