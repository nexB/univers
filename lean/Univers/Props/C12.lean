/-
C12 — versions, constraints, ranges: hashable, hash agrees with ==, never mutated.

`hashKey` models the value `hash()` is computed from: equal keys give equal hashes, so
`eq → equal keys` is what "whenever two of them compare equal they have the same hash" needs.
The class-level facts are decided over the class table regenerated from /repo.
Mutation through retained aliases cannot be expressed by a value-semantics model; it is
covered by before/after snapshots in the correspondence only (partial, see DESIGN §10).
-/
import Univers.Props.C03
import Univers.Py.Dispatch

namespace Univers.C12

open Univers Univers.Gen

/-- every version class, `VersionConstraint` and `VersionRange` resolves `__hash__` to a real
method (a class that defines `__eq__` without `__hash__` would show up as "none") -/
theorem all_hashable :
    ∀ k ∈ versionClasses ++ otherClasses, ∀ d ∈ k.dunders, d.name = "__hash__" → d.origin ≠ "none" := by
  decide +kernel

/-- attributes cannot be reassigned: every attrs class of the library is frozen -/
theorem frozen_flags : ∀ k ∈ versionClasses ++ otherClasses, k.frozen = true := by decide +kernel

/-! ### equal versions have equal hash keys, per scheme -/

theorem gem (a b : Gem.Raw) : Gem.verOps.eq a b = true → Gem.hashKey a = Gem.hashKey b := Gem.eq_imp_hash a b
theorem rpm (a b : Rpm.Raw) : Rpm.verOps.eq a b = true → Rpm.hashKey a = Rpm.hashKey b := Rpm.eq_imp_hash a b
theorem pypi (a b : Pypi.Raw) : Pypi.verOps.eq a b = true → Pypi.hashKey a = Pypi.hashKey b := Pypi.eq_imp_hash a b
theorem deb (a b : Deb.Raw) : Deb.verOps.eq a b = true → Deb.hashKey a = Deb.hashKey b := Deb.eq_imp_hash a b
theorem alpm (a b : Alpm.Raw) : Alpm.verOps.eq a b = true → Alpm.hashKey a = Alpm.hashKey b := Alpm.eq_imp_hash a b
theorem gentoo (a b : Gentoo.Raw) (ha : Gentoo.Valid a) (hb : Gentoo.Valid b) :
    Gentoo.verOps.eq a b = true → Gentoo.hashKey a = Gentoo.hashKey b := Gentoo.eq_imp_hash a b ha hb
theorem semver (a b : Semver.Raw) : Semver.verOps.eq a b = true → Semver.hashKey a = Semver.hashKey b :=
  Semver.eq_imp_hash a b
theorem legacy_openssl (a b : Openssl.Legacy.Raw) :
    Openssl.Legacy.verOps.eq a b = true → Openssl.Legacy.hashKey a = Openssl.Legacy.hashKey b :=
  Openssl.Legacy.eq_imp_hash a b
theorem openssl (a b : Openssl.Raw) : Openssl.verOps.eq a b = true → Openssl.hashKey a = Openssl.hashKey b :=
  Openssl.eq_imp_hash a b
theorem conan (a b : Conan.Raw) : Conan.verOps.eq a b = true → Conan.hashKey a = Conan.hashKey b := Conan.eq_imp_hash a b
theorem nuget (a b : Nuget.Raw) (ha : Nuget.WF a = true) (hb : Nuget.WF b = true) :
    Nuget.verOps.eq a b = true → Nuget.hashKey a = Nuget.hashKey b := Nuget.eq_imp_hash a b ha hb
theorem generic (a b : Generic.Raw) : Generic.verOps.eq a b = true → Generic.hashKey a = Generic.hashKey b :=
  Generic.eq_imp_hash a b
/-- maven: known finding — `1.0 == 1` with different hash keys (hash of the unparsed text) -/
theorem maven_counterexample :
    Maven.verOps.eq (Maven.mk "1.0") (Maven.mk "1") = true ∧ Maven.hashKey (Maven.mk "1.0") ≠ Maven.hashKey (Maven.mk "1") :=
  Maven.eq_imp_hash_counterexample

/-- the value `hash(VersionConstraint)` is computed from: attrs hashes the fields
`(comparator, version, comp_operator, version_class)`; the last two are functions of the first
two -/
def conHashKey {V K : Type} (hk : V → K) : Con V → Option (Cmpr × K)
  | .star => none
  | .mk c v => some (c, hk v)

theorem constraint_eq_imp_hash {V K : Type} (o : VOps V) (hk : V → K)
    (h : ∀ a b, o.eq a b = true → hk a = hk b) (c d : Con V) :
    conEq o c d = true → conHashKey hk c = conHashKey hk d := by
  cases c <;> cases d <;> simp [conEq, conHashKey]
  intro h1 h2
  exact ⟨h1, h _ _ h2⟩

/-- `VersionRange.__eq__`/`__hash__` are the attrs ones on the tuple of constraints -/
theorem range_eq_imp_hash {V K : Type} (o : VOps V) (hk : V → K)
    (h : ∀ a b, o.eq a b = true → hk a = hk b) :
    ∀ (r s : List (Con V)), (r.length = s.length ∧ (r.zip s).all (fun p => conEq o p.1 p.2) = true) →
      r.map (conHashKey hk) = s.map (conHashKey hk)
  | [], [], _ => rfl
  | [], _ :: _, ⟨hl, _⟩ => by simp at hl
  | _ :: _, [], ⟨hl, _⟩ => by simp at hl
  | c :: r, d :: s, ⟨hl, ha⟩ => by
    simp only [List.zip_cons_cons, List.all_cons, Bool.and_eq_true] at ha
    simp only [List.map_cons]
    rw [constraint_eq_imp_hash o hk h c d ha.1,
      range_eq_imp_hash o hk h r s ⟨by simpa using hl, ha.2⟩]

end Univers.C12
