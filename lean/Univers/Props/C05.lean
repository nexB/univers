/-
C05 — vers text and range objects round-trip losslessly and canonically.

Model: `Univers/Text/Vers.lean` (`VersionRange.from_string`, `VersionConstraint.from_string`,
`split`, `__str__`, `to_dict`) over the registry tables regenerated from /repo.
Spec: `Univers/Text/VersSpec.lean`.  Helper proofs: `Univers/Text/VersThm.lean`.
The order of the printed constraints (version order) is Layer B: `sortCons_of_wf` (C04/C07).
-/
import Univers.Text.VersThm
import Univers.Vers.SortThm

namespace Univers.C05

open Univers Univers.Text Univers.Text.Vers Univers.Text.Str

/-- every range class that can print a `vers:<scheme>/` string has that scheme recognised by
the parser (decided over the regenerated registry and class tables) -/
theorem registry_complete : RegistryComplete := Vers.registry_complete

/-- the registry maps each name to the range class that prints that name -/
theorem registry_sound : RegistrySound := Vers.registry_sound

/-- the printed constraint (`=` implicit) splits back into its comparator and version -/
theorem split_of_print (c : Cmpr) {v : List Char} (h : TextSafe v) :
    split (print c v) = (c.text.toList, v) := Vers.split_of_print c h

/-- printing a range (any registered scheme, any non-empty constraint list with delimiter-free
version texts that the version class prints back unchanged, star only alone) and parsing that
text yields the same scheme and the same constraints -/
theorem fromString_toString (mkVer : MkVer) (scheme : List Char) (vc : String)
    (items : List TCon) (hreg : Registered scheme vc) (hne : items ≠ [])
    (hstar : StarAlone items) (hok : ∀ c ∈ items, ConOk (mkVer vc) c)
    (ha : isAsciiRepr (Vers.toString scheme items) = true) :
    fromString mkVer (Vers.toString scheme items) = .ok (scheme, items) :=
  Vers.fromString_toString mkVer scheme vc items hreg hne hstar hok ha

/-- and printing again yields the identical string -/
theorem toString_fromString_canonical (mkVer : MkVer) (e : Expr) (vc : String) (t : List Char)
    (hreg : Registered e.scheme vc) (hne : e.items ≠ []) (hstar : StarAlone e.items)
    (hok : ∀ c ∈ e.items, ConOk (mkVer vc) c) (hr : Renders e t)
    (ha : isAsciiRepr (removeSpaces t) = true) :
    (fromString mkVer t).map (fun r => Vers.toString r.1 r.2) = .ok (Vers.toString e.scheme e.items) :=
  Vers.toString_fromString_canonical mkVer e vc t hreg hne hstar hok hr ha

/-- the star range round-trips for every registered scheme -/
theorem fromString_toString_star (mkVer : MkVer) (scheme : List Char) (vc : String)
    (hreg : Registered scheme vc) :
    fromString mkVer (Vers.toString scheme [.star]) = .ok (scheme, [.star]) := by
  refine fromString_toString mkVer scheme vc [.star] hreg (List.cons_ne_nil _ _) (.inl rfl)
    (fun c hc => by rw [List.mem_singleton.mp hc]; trivial) ?_
  -- the characters around the scheme name are plain, and the name itself passes the test
  rw [Vers.toString, List.append_assoc _ ['/'],
    show ['/'] ++ join ['|'] ([Con.star].map conStr) = ['/', '*'] from rfl]
  exact (isAsciiRepr_pad (x := []) ['v', 'e', 'r', 's', ':'] ['/', '*'] (by decide)).trans
    (registered_props hreg).1

end Univers.C05
