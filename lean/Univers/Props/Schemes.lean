/-
The generic Layer-B theorems (C04, C07, C08, C09, C10, C13, C17) instantiated at the concrete scheme
models of Layer A.

Every Layer-B theorem is stated for an arbitrary type of versions with six operators `o` and a
comparison `cmp` such that `[TransCmp cmp]` and `Lawful o cmp`.  This file shows that the hypotheses
are MET by the models of the library's own schemes — so the theorems are about gem, rpm, pypi, deb,
generic, openssl (legacy and current), semver, nuget, conan, ebuild/alpine, alpm and maven as
modelled, not about an empty class — and restates the main results for each of them.

Schemes whose comparison is a `TransCmp` only on a sub-domain come with that sub-domain as a subtype:
alpm (all versions with a pkgrel / all without), ebuild and alpine (values the constructors
produce), nuget (well-formed values), conan (one homogeneous shape), maven (the documented shape,
K01).  semver-family and openssl operators are lawful on canonical values (`CanonRaw`), which is
what the constructors produce (`C02.semver_constructed`, `C02.openssl_constructed`).
-/
import Univers.Props.C02
import Univers.Props.C04
import Univers.Props.C07
import Univers.Props.C08
import Univers.Props.C09
import Univers.Props.C10
import Univers.Props.C13
import Univers.Props.C17

namespace Univers.Schemes

open Univers Std

structure LawfulScheme where
  V : Type
  o : VOps V
  cmp : V → V → Ordering
  trans : TransCmp cmp
  lawful : Lawful o cmp

attribute [instance] LawfulScheme.trans

variable (S : LawfulScheme)

/-- C04 for the scheme -/
theorem contains (cs : List (Con S.V)) (hwf : WFSorted S.cmp cs) (x : S.V) :
    containsVersion S.o x cs = .ok (denote S.cmp cs x) :=
  C04.contains_eq_denote S.lawful cs hwf x

/-- C07 for the scheme -/
theorem validate_iff (cs : List (Con S.V)) : validate S.o cs = .ok true ↔ WF S.cmp cs :=
  C07.validate_iff_wf S.lawful cs

/-- C08 for the scheme -/
theorem simplify_ok (perm : List (Con S.V) → List (Con S.V)) (hperm : ∀ l, (perm l).Perm l)
    (cs : List (Con S.V)) (hns : noStar cs = true) (hs : StrictSorted S.cmp cs) :
    ∃ R, simplify S.o perm cs = .ok R ∧ R.Sublist cs ∧ (∀ x, denoteR S.cmp R x = denoteR S.cmp cs x) ∧
      validate S.o R = .ok true ∧ simplify S.o perm R = .ok R :=
  C08.simplify_spec S.lawful perm hperm cs hns hs

/-- C09 for the scheme -/
theorem invert_ok (cs : List (Con S.V)) (hwf : WFSorted S.cmp cs) (hstar : cs ≠ [.star]) (hne : cs ≠ [])
    (hnv : NonVacuous S.cmp cs) :
    ∃ inv, invertRange S.o cs = some (.ok inv) ∧ WFSorted S.cmp inv ∧
      (∀ x, denote S.cmp inv x = !denote S.cmp cs x) ∧
      (∀ x, containsVersion S.o x inv = .ok (!denote S.cmp cs x)) ∧
      invertRange S.o inv = some (.ok cs) :=
  C09.invert_complement S.lawful cs hwf hstar hne hnv

/-- C10 for the scheme -/
theorem normalize_ok (cs : List (Con S.V)) (hwf : WFSorted S.cmp cs) (ks : List S.V) :
    ∃ r, normalize S.o cs ks = .ok r ∧ WFSorted S.cmp r ∧ validate S.o r = .ok true ∧
      ∀ k ∈ ks, containsVersion S.o k r = .ok (denote S.cmp cs k) := by
  obtain ⟨r, h1, h2, h3⟩ := C10.normalize_accepted S.lawful cs hwf ks
  obtain ⟨r', h1', hm⟩ := C10.normalize_members S.lawful cs hwf ks
  rw [h1] at h1'; injection h1' with e; subst e
  exact ⟨r, h1, h2, h3, fun k hk => (hm k hk).1⟩

/-- C13 for the scheme -/
theorem canonical (cs cs' : List (Con S.V)) (hp : cs'.Perm cs) (hwf : WF S.cmp cs) :
    mkRange S.o cs' = mkRange S.o cs :=
  C13.canonical_perm S.lawful cs cs' hp hwf

/-- C17 for the scheme -/
theorem history (ops : List (C17.Op S.V)) (hops : ∀ op ∈ ops, op.ok) (s : List (Con S.V))
    (hg : C17.Good S.cmp s) :
    ∃ s', C17.run S.o ops s = .ok s' ∧ C17.Good S.cmp s' ∧ ∀ x, denote S.cmp s' x = denote S.cmp s x :=
  C17.history_meaning S.lawful ops hops s hg

def gem : LawfulScheme := ⟨Gem.Raw, Gem.verOps, Gem.vercmp, inferInstance, Gem.verOps_lawful⟩
def rpm : LawfulScheme := ⟨Rpm.Raw, Rpm.verOps, Rpm.vercmp, inferInstance, Rpm.verOps_lawful⟩
def pypi : LawfulScheme := ⟨Pypi.Raw, Pypi.verOps, Pypi.vercmp, inferInstance, Pypi.verOps_lawful⟩
def generic : LawfulScheme := ⟨Generic.Raw, Generic.verOps, Generic.vercmp, inferInstance, Generic.verOps_lawful⟩
def deb : LawfulScheme := ⟨Deb.Raw, Deb.verOps, Deb.vercmp, inferInstance, Deb.verOps_lawful⟩
def legacyOpenssl : LawfulScheme :=
  ⟨Openssl.Legacy.Raw, Openssl.Legacy.verOps, Openssl.Legacy.vercmp, inferInstance, Openssl.Legacy.verOps_lawful⟩

/-- semver family (semver, npm, composer, golang, nginx): canonical values -/
def semver : LawfulScheme :=
  ⟨Semver.CanonRaw, Semver.verOpsCanon, fun a b => Semver.vercmp a.1 b.1,
    inferInstanceAs (TransCmp (cmpOn Subtype.val Semver.vercmp)), C02.semver⟩

/-- openssl (legacy or semver value): canonical values -/
def openssl : LawfulScheme :=
  ⟨Openssl.CanonRaw, Openssl.verOpsCanon, fun a b => Openssl.vercmp a.1 b.1,
    inferInstanceAs (TransCmp (cmpOn Subtype.val Openssl.vercmp)), C02.openssl⟩

/-- ebuild and alpine: the values the constructors produce -/
def gentoo : LawfulScheme :=
  ⟨Gentoo.ValidRaw, subOps (P := Gentoo.Valid) Gentoo.verOps, fun a b => Gentoo.vercmp a.1 b.1,
    inferInstanceAs (TransCmp (cmpOn (Subtype.val : Gentoo.ValidRaw → Gentoo.Raw) Gentoo.vercmp)),
    Gentoo.verOps_lawful.sub⟩

/-- alpm: versions with a pkgrel -/
def alpmWithRel : LawfulScheme :=
  ⟨Alpm.WithRel, subOps (P := fun r => Alpm.hasRel r = true) Alpm.verOps, fun a b => Alpm.vercmp a.1 b.1,
    inferInstanceAs (TransCmp (cmpOn (Subtype.val : Alpm.WithRel → Alpm.Raw) Alpm.vercmp)), Alpm.verOps_lawful.sub⟩

/-- alpm: versions without a pkgrel -/
def alpmNoRel : LawfulScheme :=
  ⟨Alpm.NoRel, subOps (P := fun r => Alpm.hasRel r = false) Alpm.verOps, fun a b => Alpm.vercmp a.1 b.1,
    inferInstanceAs (TransCmp (cmpOn (Subtype.val : Alpm.NoRel → Alpm.Raw) Alpm.vercmp)), Alpm.verOps_lawful.sub⟩

/-- nuget: the values the constructor produces -/
def nuget : LawfulScheme :=
  ⟨Nuget.WFRaw, subOps (P := fun r => Nuget.WF r = true) Nuget.verOps, fun a b => Nuget.vercmp a.1 b.1,
    inferInstanceAs (TransCmp Nuget.vercmpW), Nuget.verOps_lawful.sub⟩

/-- conan: versions of one homogeneous shape `σ` (numbers and words never share a position) -/
def conan (σ : List Bool → Nat → Bool) : LawfulScheme :=
  ⟨Conan.Dom σ, subOps (P := fun v => Conan.Fits σ [] v = true) Conan.verOps, fun a b => Conan.vercmp a.1 b.1,
    inferInstanceAs (TransCmp (Conan.vercmpOn σ)), Conan.verOps_lawful.sub⟩

/-- maven: the documented shape (outside it the order is not lawful: K01) -/
def maven : LawfulScheme :=
  ⟨Maven.Dom, subOps (P := fun r => Maven.InDomain r = true) Maven.verOps, fun a b => Maven.vercmp a.1 b.1,
    inferInstanceAs (TransCmp Maven.domCmp), Maven.verOps_lawful.sub⟩

/-- the schemes the library registers, each with a lawful model -/
def all (σ : List Bool → Nat → Bool) : List LawfulScheme :=
  [gem, rpm, pypi, generic, deb, legacyOpenssl, semver, openssl, gentoo, alpmWithRel, alpmNoRel, nuget, conan σ, maven]

/-! non-vacuity: Layer B's membership theorem at two concrete schemes -/
example (cs : List (Con Gem.Raw)) (hwf : WFSorted Gem.vercmp cs) (x : Gem.Raw) :
    containsVersion Gem.verOps x cs = .ok (denote Gem.vercmp cs x) := contains gem cs hwf x
example (cs : List (Con Deb.Raw)) : validate Deb.verOps cs = .ok true ↔ WF Deb.vercmp cs := validate_iff deb cs

end Univers.Schemes
