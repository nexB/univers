/-
C08 — simplification keeps the meaning, only removes, reaches a valid fixed point.

Model: `simplify` = `deduplicate` then `simplify_constraints` (FIXED CODE: one pass with a stack
of retained constraints, then `sorted(set(...))` whose set iteration order is the arbitrary
permutation `perm`).  Spec: `denoteR` (redundant-range meaning), `validate`, sub-list.
Helper lemmas: `Univers/Vers/Simplify*.lean`.
-/
import Univers.Vers.SimplifyChar
import Univers.Props.C04

namespace Univers.C08

open Univers Std

variable {V : Type} {o : VOps V} {cmp : V → V → Ordering}

/-- exact duplicates of some constraints simply disappear -/
theorem simplify_dups (perm : List (Con V) → List (Con V)) (L cs : List (Con V))
    (hd : deduplicate o [] L = cs) (hcs : deduplicate o [] cs = cs) :
    simplify o perm L = simplify o perm cs := by
  unfold simplify; rw [hd, hcs]

/-- The four clauses at once, for every version-sorted list with pairwise distinct versions
(well-formed or not, any length, any lawful scheme) and every iteration order `perm` of the
intermediate set: simplification returns a list `R` that
 1. is a sub-list of the input,
 2. has the same (redundant-range) meaning for every version,
 3. is accepted by validation,
 4. is a fixed point of simplification. -/
theorem simplify_spec [TransCmp cmp] (h : Lawful o cmp)
    (perm : List (Con V) → List (Con V)) (hperm : ∀ l, (perm l).Perm l)
    (cs : List (Con V)) (hns : noStar cs = true) (hs : StrictSorted cmp cs) :
    ∃ R, simplify o perm cs = .ok R ∧ R.Sublist cs ∧
      (∀ x, denoteR cmp R x = denoteR cmp cs x) ∧
      validate o R = .ok true ∧
      simplify o perm R = .ok R := by
  obtain ⟨R, hR, hsub, hne, hrest⟩ := simplify_char h cs hns hs
  have hnsR := noStar_of_sublist hsub hns
  have hsR : StrictSorted cmp R := hs.sublist hsub
  have hK := simpKept_refines (cmp := cmp) (cs.filter fun c => !c.isNe)
  have hkred := redFwd_simpKept (cs.filter fun c => !c.isNe)
  refine ⟨R, hR perm hperm, hsub, ?_, ?_, ?_⟩
  · -- 2. meaning
    intro x
    by_cases hr : cs.filter (fun c => !c.isNe) = []
    · -- only "!=": nothing is removed
      rw [sublist_eq_of_filter_eq hsub hne (by rw [hrest, hr]; rfl)]
    · have hmw := hK.walk [] (by rw [List.append_nil]; exact hs.filter _) x false
      rw [List.append_nil, List.append_nil] at hmw
      rw [denoteR_eq_mw hnsR hsR (by rw [hrest]; exact simpKept_ne_nil _ hr) x,
        denoteR_eq_mw hns hs hr x, hne, hrest, hmw]
  · -- 3. accepted by validation
    apply (validate_ok_iff_wf h R).mpr
    refine ⟨R, .refl _, .inr ⟨hnsR, hsR, ?_, ?_⟩⟩
    · rw [eqRule, hrest]
      exact eqPairs_of_red _ hkred
    · rw [altRule_eq_altB, ← filter_isBound_filter_notNe, hrest]
      exact altB_of_red _ hkred fun c hc => plain_filter_notNe cs hns c (hK.sub.subset hc)
  · -- 4. a fixed point: the second walk only pushes
    obtain ⟨R', hR', hsub', hne', hrest'⟩ := simplify_char h R hnsR hsR
    rw [hR' perm hperm, sublist_eq_of_filter_eq hsub' hne' (by rw [hrest', hrest, simpKept_of_red _ hkred])]

/-- The canonical result does not depend on the iteration order of the intermediate set, i.e.
on the interpreter's hash seed. -/
theorem simplify_seed_independent [TransCmp cmp] (h : Lawful o cmp)
    (perm perm' : List (Con V) → List (Con V)) (hperm : ∀ l, (perm l).Perm l)
    (hperm' : ∀ l, (perm' l).Perm l)
    (cs : List (Con V)) (hns : noStar cs = true) (hs : StrictSorted cmp cs) :
    simplify o perm cs = simplify o perm' cs := by
  obtain ⟨R, hR, -⟩ := simplify_char h cs hns hs
  rw [hR perm hperm, hR perm' hperm']

/-! non-vacuity: the hypotheses are met by a concrete redundant list, and the model removes
what it should -/
example : StrictSorted C04.intCmp [.mk .ge 2, .mk .gt 4, .mk .eq 5, .mk .lt 6, .mk .le 8] ∧
    noStar ([.mk .ge 2, .mk .gt 4, .mk .eq 5, .mk .lt 6, .mk .le 8] : List (Con Int)) = true := by
  decide

example : simpKept ([.mk .ge 2, .mk .gt 4, .mk .eq 5, .mk .lt 6, .mk .le 8] : List (Con Int))
    = [.mk .ge 2, .mk .le 8] := by rfl

end Univers.C08
