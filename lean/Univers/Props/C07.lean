/-
C07 — validation accepts exactly the well-formed constraint sequences.

Model: `validate` (`VersionConstraint.validate` + `validate_comparators`, FIXED CODE: the star
rule is tested before sorting; a sorted copy is used).  Spec: `WF`.
-/
import Univers.Vers.ValidateThm
import Univers.Props.C04

namespace Univers.C07

open Univers Std

variable {V : Type} {o : VOps V} {cmp : V → V → Ordering}

/-- Validation accepts a list exactly when, read in version order, it is well-formed: every
version once, `*` only alone, an `=` never followed by an upper bound once exclusions are
ignored, lower and upper bounds strictly alternating once `=` and `!=` are ignored. -/
theorem validate_iff_wf [TransCmp cmp] (h : Lawful o cmp) (cs : List (Con V)) :
    validate o cs = .ok true ↔ WF cmp cs :=
  validate_ok_iff_wf h cs

/-- every other list is rejected with a ValueError (never another error, never `False`) -/
theorem validate_rejects_with_ValueError [TransCmp cmp] (h : Lawful o cmp) (cs : List (Con V))
    (hn : ¬ WF cmp cs) : validate o cs = .error .ValueError := by
  rcases validate_cases (o := o) cs with hv | hv
  · exact absurd ((validate_ok_iff_wf h cs).mp hv) hn
  · exact hv

/-- Every accepted list can be tested for membership of any version without an error
(through the range constructor, which sorts). -/
theorem accepted_is_total [TransCmp cmp] (h : Lawful o cmp) (cs : List (Con V))
    (hv : validate o cs = .ok true) (x : V) :
    ∃ s b, mkRange o cs = .ok s ∧ containsVersion o x s = .ok b := by
  obtain ⟨s, hs, _, hw⟩ := sortCons_of_wf h cs ((validate_ok_iff_wf h cs).mp hv)
  exact ⟨s, _, hs, C04.contains_eq_denote h s hw x⟩

/-! non-vacuity: a well-formed list given out of order; a rejected one -/
example : WF C04.intCmp [.mk .ge 3, .mk .lt 1] :=
  ⟨[.mk .lt 1, .mk .ge 3], List.Perm.swap _ _ _, Or.inr ⟨by decide, by decide, by decide, by decide⟩⟩
example : validate (opsOf C04.intCmp) [.star, .mk .eq 1] = .error .ValueError := by rfl

end Univers.C07
