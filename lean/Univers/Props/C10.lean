/-
C10 — ranges built from explicit version sets contain exactly what they should.

`normalize o cs ks` is the model of `VersionRange.normalize(known_versions)` on constructed versions
(`Model.lean`): sort the known versions with the real `<`, test each for membership with the real
`__contains__`, group maximal runs of members, emit `=lo` or `>=lo|<=hi` per run, build the range
(which sorts).  `fromVersions` is `VersionRange.from_versions`.

The theorems hold for every scheme whose six operators are induced by a transitive three-way
comparison (`Lawful o cmp`, discharged per scheme in C01/C02), every well-formed version-sorted
range (what a `VersionRange` object holds, C07/C13) and every list of known versions.
-/
import Univers.Vers.NormalizeCanon
import Univers.Vers.ValidateThm
import Univers.Props.C04

namespace Univers.C10

open Univers Std

variable {V : Type} {o : VOps V} {cmp : V → V → Ordering}

theorem leB_iff [OrientedCmp cmp] (h : Lawful o cmp) (a b : V) : (!o.lt b a) = true ↔ le' cmp a b := by
  rw [h.lt, le', ne_eq, OrientedCmp.gt_iff_lt, Bool.not_eq_true', beq_eq_false_iff_ne]

theorem sortVers_perm (ks : List V) : (sortVers o ks).Perm ks := List.mergeSort_perm _ _

theorem sortVers_sorted [TransCmp cmp] (h : Lawful o cmp) (ks : List V) :
    (sortVers o ks).Pairwise (le' cmp) := by
  refine (List.pairwise_mergeSort (le := fun a b => !o.lt b a) (fun a b c hab hbc => ?_)
    (fun a b => ?_) ks).imp (leB_iff h _ _).mp
  · exact (leB_iff h a c).mpr (le'_trans ((leB_iff h a b).mp hab) ((leB_iff h b c).mp hbc))
  · rw [Bool.or_eq_true, leB_iff h, leB_iff h]
    exact (Decidable.em (cmp a b = .gt)).symm.imp_right fun e => le'_of_lt (OrientedCmp.lt_of_gt e)

theorem memAll_ok [TransCmp cmp] (h : Lawful o cmp) (cs : List (Con V)) (hwf : WFSorted cmp cs) :
    ∀ S : List V, memAll o cs S = .ok (S.map (fun k => (k, denote cmp cs k)))
  | [] => rfl
  | k :: t => by
    simp only [memAll, C04.contains_eq_denote h cs hwf k, memAll_ok h cs hwf t, List.map_cons]

theorem normalize_blocks [TransCmp cmp] (h : Lawful o cmp) (cs : List (Con V)) (hwf : WFSorted cmp cs)
    (ks : List V) :
    ∃ bs, normalize o cs ks = .ok (bs.flatMap (blockCons o)) ∧
      Canon cmp (· ∈ ks) (denote cmp cs) (fun _ => True) bs := by
  have hK : (· ∈ sortVers o ks) = (· ∈ ks) := funext fun _ => propext (sortVers_perm ks).mem_iff
  -- membership respects version equality
  have hc := goBlocks_canon (denote cmp cs)
    (fun _ _ e => denote_congr cs fun _ _ _ => TransCmp.congr_left e) _ (sortVers_sorted h ks)
  refine ⟨_, ?_, hK ▸ hc⟩
  rw [normalize, memAll_ok h cs hwf]
  -- the block list is already sorted: the constructor's sort leaves it as it is
  exact (congrArg (mkRange o) (groupRuns_eq_goBlocks _ _ [])).trans
    (sortCons_eq_of_perm h _ _ (.refl _) (blocks_noStar _) (blocks_strictSorted h _ hc.sorted))

/-- Normalising never fails, and validation accepts the result. -/
theorem normalize_accepted [TransCmp cmp] (h : Lawful o cmp) (cs : List (Con V)) (hwf : WFSorted cmp cs)
    (ks : List V) :
    ∃ r, normalize o cs ks = .ok r ∧ WFSorted cmp r ∧ validate o r = .ok true := by
  obtain ⟨bs, e, hc⟩ := normalize_blocks h cs hwf ks
  have hw := blocks_wfSorted h _ hc.sorted
  exact ⟨_, e, hw, (validate_ok_iff_wf h _).mpr ⟨_, List.Perm.refl _, hw⟩⟩

/-- The result is empty exactly when no known version is a member. -/
theorem normalize_empty_iff [TransCmp cmp] (h : Lawful o cmp) (cs : List (Con V)) (hwf : WFSorted cmp cs)
    (ks : List V) :
    normalize o cs ks = .ok [] ↔ ∀ k ∈ ks, denote cmp cs k = false := by
  obtain ⟨bs, e, hc⟩ := normalize_blocks h cs hwf ks
  rw [e, Except.ok.injEq, blocks_eq_nil]
  constructor
  · intro hb k hk
    rw [← hc.memb k hk trivial, hb]
    rfl
  · -- the start of a block would be a known member
    refine fun hall => List.eq_nil_iff_forall_not_mem.mpr fun b hb => ?_
    have := hc.mem_lo hb
    rw [hall b.1 (hc.ends b hb).1] at this
    cases this

/-- The result contains a known version exactly when the original range does (and the test never
raises). -/
theorem normalize_members [TransCmp cmp] (h : Lawful o cmp) (cs : List (Con V)) (hwf : WFSorted cmp cs)
    (ks : List V) :
    ∃ r, normalize o cs ks = .ok r ∧ ∀ k ∈ ks,
      containsVersion o k r = .ok (denote cmp cs k) ∧ containsVersion o k cs = .ok (denote cmp cs k) := by
  obtain ⟨bs, e, hc⟩ := normalize_blocks h cs hwf ks
  refine ⟨_, e, fun k hk => ⟨?_, C04.contains_eq_denote h cs hwf k⟩⟩
  rw [C04.contains_eq_denote h _ (blocks_wfSorted h _ hc.sorted) k, denote_blockList h,
    hc.memb k hk trivial]

/-- The result is a list of blocks in strictly increasing order, each `=v` or `>=lo|<=hi`; every bound
is a known version and a member; each block holds members only; two consecutive blocks are separated
by a known version that is not a member (so each block is a MAXIMAL run). -/
theorem normalize_shape [TransCmp cmp] (h : Lawful o cmp) (cs : List (Con V)) (hwf : WFSorted cmp cs)
    (ks : List V) :
    ∃ bs : List (V × V), normalize o cs ks = .ok (bs.flatMap (blockCons o)) ∧ blocksSorted cmp bs ∧
      (∀ b ∈ bs, b.1 ∈ ks ∧ b.2 ∈ ks ∧ denote cmp cs b.1 = true ∧ denote cmp cs b.2 = true) ∧
      (∀ b ∈ bs, ∀ k ∈ ks, inBlock cmp k b = true → denote cmp cs k = true) ∧
      (∀ b c rest pre, bs = pre ++ b :: c :: rest →
        ∃ k ∈ ks, denote cmp cs k = false ∧ cmp b.2 k = .lt ∧ cmp k c.1 = .lt) := by
  obtain ⟨bs, e, hc⟩ := normalize_blocks h cs hwf ks
  refine ⟨_, e, hc.sorted, fun b hb => ?_, fun b hb k hk => hc.mem_of_inBlock hb hk trivial, hc.sep⟩
  obtain ⟨k1, k2, _⟩ := hc.ends b hb
  exact ⟨k1, k2, hc.mem_lo hb,
    hc.mem_of_inBlock hb k2 trivial (inBlock_hi (blocksSorted_mem_le hc.sorted b hb))⟩

/-- every constraint of the result is `=v`, `>=v` or `<=v` for a known version `v` -/
theorem normalize_bounds_known [TransCmp cmp] (h : Lawful o cmp) (cs : List (Con V)) (hwf : WFSorted cmp cs)
    (ks : List V) :
    ∃ r, normalize o cs ks = .ok r ∧
      ∀ c ∈ r, ∃ v ∈ ks, c = .mk .eq v ∨ c = .mk .ge v ∨ c = .mk .le v := by
  obtain ⟨bs, e, hc⟩ := normalize_blocks h cs hwf ks
  refine ⟨_, e, fun c hcm => ?_⟩
  obtain ⟨b, hb, hcb⟩ := List.mem_flatMap.mp hcm
  obtain ⟨k1, k2, _⟩ := hc.ends b hb
  rcases blockCons_mem hcb with rfl | rfl | rfl
  · exact ⟨b.1, k1, .inl rfl⟩
  · exact ⟨b.1, k1, .inr (.inl rfl)⟩
  · exact ⟨b.2, k2, .inr (.inr rfl)⟩

/-- Two ranges that agree on the known versions normalise to the same range. -/
theorem normalize_extensional [TransCmp cmp] (h : Lawful o cmp) (cs cs' : List (Con V))
    (hwf : WFSorted cmp cs) (hwf' : WFSorted cmp cs') (ks : List V)
    (hag : ∀ k ∈ ks, denote cmp cs k = denote cmp cs' k) :
    normalize o cs ks = normalize o cs' ks := by
  -- the loop sees the two ranges only through the membership of the known versions
  rw [normalize, normalize, memAll_ok h cs hwf, memAll_ok h cs' hwf',
    List.map_congr_left fun k hk => by rw [hag k ((sortVers_perm ks).mem_iff.mp hk)]]

def consEquiv (cmp : V → V → Ordering) : List (Con V) → List (Con V) → Prop
  | [], [] => True
  | .mk k v :: t, .mk k' v' :: t' => k = k' ∧ cmp v v' = .eq ∧ consEquiv cmp t t'
  | _, _ => False

theorem blocks_consEquiv [TransCmp cmp] (h : Lawful o cmp) (bs bs' : List (V × V))
    (e : blocksEquiv cmp bs bs') :
    consEquiv cmp (bs.flatMap (blockCons o)) (bs'.flatMap (blockCons o)) := by
  induction bs generalizing bs' with
  | nil => cases bs' with
    | nil => trivial
    | cons _ _ => exact e.elim
  | cons b t ih => cases bs' with
    | nil => exact e.elim
    | cons b' t' =>
      -- equal ends: the two blocks are `=` blocks together or not at all
      have hc : o.eq b.1 b.2 = o.eq b'.1 b'.2 := by
        rw [h.eq, h.eq, TransCmp.congr_left e.1.1, TransCmp.congr_right e.1.2]
      rw [List.flatMap_cons, List.flatMap_cons, blockCons, blockCons, hc]
      split
      · exact ⟨rfl, e.1.1, ih t' e.2⟩
      · exact ⟨rfl, e.1.1, rfl, e.1.2, ih t' e.2⟩

/-- Two lists of known versions with the same elements — any order, any duplication — give the same
result: the same comparators in the same order, on equal versions. -/
theorem normalize_order_and_duplicates [TransCmp cmp] (h : Lawful o cmp) (cs : List (Con V))
    (hwf : WFSorted cmp cs) (ks ks' : List V) (hset : ∀ v, v ∈ ks ↔ v ∈ ks') :
    ∃ r r', normalize o cs ks = .ok r ∧ normalize o cs ks' = .ok r' ∧ consEquiv cmp r r' := by
  obtain ⟨bs, e, hc⟩ := normalize_blocks h cs hwf ks
  obtain ⟨bs', e', hc'⟩ := normalize_blocks h cs hwf ks'
  have hK : (· ∈ ks') = (· ∈ ks) := funext fun v => propext (hset v).symm
  exact ⟨_, _, e, e', blocks_consEquiv h _ _
    (canon_unique _ _ _ (fun _ _ _ _ => trivial) hc (hK ▸ hc'))⟩

theorem eq_of_isEq {c : Con V} (hc : c.isEq = true) : ∃ v, c = .mk .eq v := by
  cases c with
  | star => cases hc
  | mk k v => cases k <;> first | exact ⟨v, rfl⟩ | cases hc

/-- "=" constraints only, possibly with repeated versions: such a list is not `WFSorted`, so C04 does
not apply -/
theorem contains_allEq (h : Lawful o cmp) (x : V) (r : List (Con V)) (hr : ∀ c ∈ r, c.isEq = true) :
    containsVersion o x r = .ok (r.any (fun c => c.at cmp x)) := by
  have hform := fun c hc => eq_of_isEq (hr c hc)
  have hmulti : containsMulti o x r = .ok (r.any (fun c => c.at cmp x)) := by
    have h1 : r.any (fun c => c.hasNeSub && c.verEq o x) = false :=
      List.any_eq_false.mpr fun c hc => by obtain ⟨v, rfl⟩ := hform c hc; nofun
    have h2 : r.any (fun c => c.hasEqChar && c.verEq o x) = r.any (fun c => c.at cmp x) :=
      any_congr_mem fun c hc => by obtain ⟨v, rfl⟩ := hform c hc; exact h.eq x v
    have h3 : r.filter (fun c => !(c.isEq || c.isNe)) = [] :=
      List.filter_eq_nil_iff.mpr fun c hc => by rw [hr c hc]; nofun
    -- no bound is left, and the "!="-only clause does not apply
    have h4 : (!r.isEmpty && r.all Con.isNe) = false := by
      cases r with
      | nil => rfl
      | cons c t => obtain ⟨v, rfl⟩ := hform c List.mem_cons_self; rfl
    rw [containsMulti, h1, h2, h3, containsBounds, h4]
    cases r.any (fun c => c.at cmp x) <;> rfl
  -- a single constraint is tested by itself
  cases r with
  | nil => exact hmulti
  | cons c t =>
    cases t with
    | cons _ _ => exact hmulti
    | nil =>
      obtain ⟨v, rfl⟩ := hform c List.mem_cons_self
      exact congrArg Except.ok ((h.eq x v).trans (Bool.or_false _).symm)

/-- A range built from a list of versions (any order, duplicates allowed) contains exactly the
versions equal to a listed one, and the test never raises. -/
theorem fromVersions_contains [TransCmp cmp] (h : Lawful o cmp) (vs : List V) (x : V) :
    ∃ r, fromVersions o vs = .ok r ∧ r.Perm (vs.map (fun v => Con.mk .eq v)) ∧
      containsVersion o x r = .ok (vs.any (fun v => cmp x v == .eq)) := by
  have hp := List.mergeSort_perm (vs.map (fun v => Con.mk .eq v)) (fun a b => conLe o a b)
  refine ⟨_, sortCons_noStar _ ?_, hp, ?_⟩
  · rw [noStar, List.all_map]
    exact List.all_eq_true.mpr fun _ _ => rfl
  · rw [contains_allEq h x, hp.any_eq, List.any_map]
    · rfl
    · intro c hc
      obtain ⟨v, _, rfl⟩ := List.mem_map.mp (hp.mem_iff.mp hc)
      rfl

/-! ### non-vacuity: the hypotheses are met, and the block builder on a concrete instance -/

example : Lawful (opsOf C04.intCmp) C04.intCmp ∧
    WFSorted C04.intCmp [.mk .ne 1, .mk .le 3, .mk .ne 6, .mk .eq 9] :=
  ⟨opsOf_lawful _, Or.inr ⟨by decide, by decide, by decide, by decide⟩⟩

/-- the sorted known versions 1,3,3,5,6,9,9,9 against `!=1|<=3|!=6|=9`: the runs are [3,3] and [9,9,9] -/
example : goBlocks (denote C04.intCmp [.mk .ne 1, .mk .le 3, .mk .ne 6, .mk .eq 9]) [1, 3, 3, 5, 6, 9, 9, 9] none
    = [(3, 3), (9, 9)] := by decide

end Univers.C10
