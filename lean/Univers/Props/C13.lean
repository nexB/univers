/-
C13 — canonical vers form is independent of presentation and of the hash seed.
-/
import Univers.Props.C05
import Univers.Props.C08

namespace Univers.C13

open Univers Univers.Text Univers.Text.Vers Univers.Text.Str Std

variable {V : Type} {o : VOps V} {cmp : V → V → Ordering}

/-- Two constraint collections that differ only in the order of the constraints produce the
same canonical (version-sorted) range — for every well-formed list and every permutation. -/
theorem canonical_perm [TransCmp cmp] (h : Lawful o cmp) (cs cs' : List (Con V))
    (hp : cs'.Perm cs) (hwf : WF cmp cs) : mkRange o cs' = mkRange o cs := by
  obtain ⟨s, hs, hsp, hw⟩ := sortCons_of_wf h cs hwf
  have hwf' : WF cmp cs' := by
    obtain ⟨t, htp, htw⟩ := hwf
    exact ⟨t, htp.trans hp.symm, htw⟩
  obtain ⟨s', hs', hsp', hw'⟩ := sortCons_of_wf h cs' hwf'
  have hperm : s'.Perm s := (hsp'.trans hp).trans hsp.symm
  have : s' = s := by
    rcases hw with rfl | ⟨_, hss, _, _⟩
    · exact List.perm_singleton.mp hperm
    · rcases hw' with rfl | ⟨_, hss', _, _⟩
      · exact (List.perm_singleton.mp hperm.symm).symm
      · exact strictSorted_perm_eq h s' s hss' hss hperm
  unfold mkRange
  rw [hs, hs', this]

/-- whitespace anywhere in the text is insignificant -/
theorem text_whitespace (mkVer : MkVer) {t t' : List Char} (h : removeSpaces t = removeSpaces t') :
    fromString mkVer t = fromString mkVer t' := by
  simp only [fromString, fromStringItems, header_eq, h]

/-- the letter case of `vers` and of the scheme name is insignificant -/
theorem text_case (mkVer : MkVer) (u s c : List Char) (hu : ':' ∉ u) (hs : '/' ∉ s) :
    fromString mkVer (u ++ ':' :: (s ++ '/' :: c)) =
      fromString mkVer (lower u ++ ':' :: (lower s ++ '/' :: c)) :=
  Vers.fromString_case_eq mkVer c hu (mt (mem_lower_colon u).mp hu) hs (mt (mem_lower_slash s).mp hs)
    (lower_idem u).symm (lower_idem s).symm

/-- stray leading and trailing `|` are insignificant (FIXED CODE: also around the star) -/
theorem text_bars (mkVer : MkVer) (u s c : List Char) (n m : Nat) (hu : ':' ∉ u) (hs : '/' ∉ s) :
    fromString mkVer (u ++ ':' :: (s ++ '/' :: (bars n ++ c ++ bars m))) =
      fromString mkVer (u ++ ':' :: (s ++ '/' :: c)) :=
  Vers.fromString_bars mkVer (removeSpaces_shape u s c)
    (by rw [removeSpaces_shape, removeSpaces_append, removeSpaces_append, removeSpaces_bars,
      removeSpaces_bars])
    (not_mem_removeSpaces hu) (not_mem_removeSpaces hs)

/-- any two spellings of one expression (order of items as given, whitespace, case, stray
pipes, explicit or implicit `=`) parse to the same scheme and constraints -/
theorem text_presentation (mkVer : MkVer) (e : Expr) (vc : String)
    (t t' : List Char) (hreg : Registered e.scheme vc) (hne : e.items ≠ [])
    (hstar : StarAlone e.items) (hok : ∀ c ∈ e.items, ConOk (mkVer vc) c)
    (hr : Renders e t) (hr' : Renders e t')
    (ha : isAsciiRepr (removeSpaces t) = true) (ha' : isAsciiRepr (removeSpaces t') = true) :
    fromString mkVer t = fromString mkVer t' := by
  rw [fromString_exact mkVer e vc t hreg hne hstar hok hr ha,
    fromString_exact mkVer e vc t' hreg hne hstar hok hr' ha']

/-- The hash seed enters in exactly one place — the iteration order of the `set(...)` built
before the final `sorted` of simplification — and the result does not depend on it. -/
theorem hash_seed_independent [TransCmp cmp] (h : Lawful o cmp)
    (perm perm' : List (Con V) → List (Con V)) (hperm : ∀ l, (perm l).Perm l)
    (hperm' : ∀ l, (perm' l).Perm l)
    (cs : List (Con V)) (hns : noStar cs = true) (hs : StrictSorted cmp cs) :
    simplify o perm cs = simplify o perm' cs := C08.simplify_seed_independent h perm perm' hperm hperm' cs hns hs

end Univers.C13
